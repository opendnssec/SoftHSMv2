import Shm.Base.Hex
import Shm.Model.Consts
import Shm.Gen.Access
import Shm.Model.Types
import Shm.Model.Handles
import Shm.Model.Step
import Shm.Proto
import Shm.Props.C11
import Shm.Lemmas.HTable
import Shm.Props.C03
import Shm.Lemmas.Slots
import Shm.Lemmas.LoginInv
import Shm.Model.AttrIR
import Shm.Gen.AttrUpdate
import Shm.Gen.ClassTable
import Shm.Props.C09
import Shm.Props.C01
import Shm.Props.C19
import Shm.Props.C02
import Shm.Props.C08
import Shm.Lemmas.AbsInt
import Shm.Lemmas.AttrPreserve
import Shm.Lemmas.NoOk
import Shm.Props.C07
import Shm.Props.C12
import Shm.Props.C05
import Shm.Store.DiskView
import Shm.Props.C04
import Shm.Props.C14
import Shm.Props.C06
import Shm.Props.C16
import Shm.Props.C13
import Shm.CryptoMon
import Shm.Props.C10
import Shm.Props.C20
import Shm.Props.C17
import Shm.Props.C15
import Shm.Props.C18
import Shm.Props.FactsC01
import Shm.Props.FactsC02
import Shm.Props.FactsC03
import Shm.Props.FactsC07
import Shm.Props.FactsC08
import Shm.Props.FactsC09
import Shm.Props.FactsC12
import Shm.Props.FactsC18
import Shm.Props.FactsC16
import Shm.Model.MutexLife
