/-
  Calls of DIFFERENT sessions on session-local operations commute (C18).

  Every multi-part / single-part cryptographic call and every C_*Init reads only its own session's record (plus tokens, objects, configuration, which none of them
  writes) and writes only its own session's record.  Hence two such calls on different sessions give each caller the same answer and leave the same state in either
  order: whatever the interleaving of two threads that each work in a session of their own, every thread gets the results it would get alone.
-/
import Shm.Lemmas.Local
import Shm.Lemmas.HTable
namespace Shm

/-- `f` (a call on another session) neither reads nor writes the record of session `h1` -/
def Frame (h1 : Nat) (f : State → State × Resp) : Prop := ∀ (s : State) (x : Sess), f (withSess s h1 x) = (withSess (f s).1 h1 x, (f s).2)

/-- `Frame` at one state: `a` is the result `a'` with the record of session `h1` replaced by `x` -/
def Fr (h1 : Nat) (x : Sess) (a a' : State × Resp) : Prop := a = (withSess a'.1 h1 x, a'.2)

theorem resolveObj_withSess (s : State) (h1 : Nat) (x : Sess) (k : Nat) : resolveObj (withSess s h1 x) k = resolveObj s k := by
  unfold resolveObj withSess
  simp only [getObjH_setSess]

theorem withSess_comm (s : State) (h h1 : Nat) (x y : Sess) (hne : h ≠ h1) : withSess (withSess s h1 x) h y = withSess (withSess s h y) h1 x := by
  simp only [withSess, setSess_comm _ _ _ _ _ hne]

theorem alike_withSess (s : State) {h h1 : Nat} (x : Sess) (hne : h ≠ h1) : Alike h s (withSess s h1 x) :=
  ⟨getSess_setSess_ne _ _ _ _ hne, resolveObj_withSess s h1 x, rfl, rfl, rfl⟩

theorem Twin.fr {h h1 : Nat} {s : State} {x : Sess} {a a₂ : State × Resp} (hne : h ≠ h1) (t : Twin h s (withSess s h1 x) a a₂) : Fr h1 x a₂ a := by
  obtain ⟨hr, ⟨e, e₂⟩ | ⟨y, e, e₂⟩⟩ := t
  · exact Prod.ext (by rw [e₂, e]) hr
  · exact Prod.ext (by rw [e₂, e]; exact withSess_comm _ _ _ _ _ hne) hr

theorem fr_same {h1 : Nat} {x : Sess} (s : State) (r : Resp) : Fr h1 x (withSess s h1 x, r) (s, r) := rfl

theorem fr_finish {h1 : Nat} {x : Sess} (s : State) (h : Nat) (ss : Sess) (rv : RV) (n : Nat) (od : Option Bytes) (hne : h ≠ h1) :
    Fr h1 x (finishOp (withSess s h1 x) h ss rv n od) (finishOp s h ss rv n od) := (tw_finish ss rv n od).fr hne

theorem frame_stepOp (c : OpCall) (h : Nat) (hc : c.sess? = some h) (h1 : Nat) (hne : h ≠ h1) : Frame h1 (fun s => stepOp s c) :=
  fun s x => (twin_stepOp c hc (alike_withSess s x hne)).fr hne

/-- two functions that each read and write only their own session's record commute, and each returns what it returns alone -/
theorem commute_frames {f g : State → State × Resp} {h h1 : Nat} (hne : h ≠ h1) (Ff : Frame h1 f) (Fg : Frame h g)
    (Lf : ∀ s, Lc h s (f s)) (Lg : ∀ s, Lc h1 s (g s)) (s : State) :
    (g (f s).1).1 = (f (g s).1).1 ∧ (g (f s).1).2 = (g s).2 ∧ (f (g s).1).2 = (f s).2 := by
  -- each result state is `s` with at most the caller's own record replaced (`Lc`), and the other function runs through that replacement (`Frame`)
  rcases Lf s with hf | ⟨y, hf⟩ <;> rcases Lg s with hg | ⟨x, hg⟩ <;> simp only [hf, hg, Ff s, Fg s, and_self, and_true]
  exact withSess_comm s h h1 x y hne

end Shm
