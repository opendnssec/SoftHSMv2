/-
  C06, model side: every non-empty byte-string attribute of an object is marked as stored encrypted exactly when the object is
  private — established for the update programs TRANSLATED from P11Attributes.cpp (no plain byte-string store anywhere in them)
  and for the class tables generated by execution.
-/
import Shm.Lemmas.ProgAll
namespace Shm

/-- every non-empty byte string is flagged `enc = p` (encrypted iff the object is private) -/
def EncOK (p : Bool) (o : Attrs) : Prop := ∀ ty v enc, (ty, AVal.bytes v enc) ∈ o → v ≠ [] → enc = p

def valOK (p : Bool) : AVal → Prop
  | .bytes v enc => v = [] ∨ enc = p
  | _ => True

theorem encOK_setA {p : Bool} {o : Attrs} (h : EncOK p o) (ty : Nat) (v : AVal) (hv : valOK p v) : EncOK p (setA o ty v) := by
  intro t b enc hm hne
  rcases mem_setA hm with he | he
  · injection he with _ he
    subst he
    rcases hv with hv | hv
    · exact absurd hv hne
    · exact hv
  · exact h t b enc he hne

theorem encOK_iteIte {p : Bool} {a b : Attrs} {c : Bool} (hb : EncOK p b) (ha : EncOK p a) : EncOK p (if c then a else b) := by
  cases c
  · exact hb
  · exact ha

theorem encOK_iteSet {p : Bool} {o : Attrs} (h : EncOK p o) (c : Bool) (ty : Nat) (v : AVal) (hv : valOK p v) :
    EncOK p (if c then setA o ty v else o) := encOK_iteIte h (encOK_setA h ty v hv)

theorem encOK_nil (p : Bool) : EncOK p [] := fun _ _ _ h => by simp at h

def noPlain : UProg → Bool
  | .act .setBytesPlain _ => false
  | .act _ k => noPlain k
  | .ite _ t e k => noPlain t && noPlain e && noPlain k
  | _ => true

theorem noPlain_eq (p : UProg) : noPlain p = progAll (fun a => a != .setBytesPlain) (fun _ => true) true p := by
  induction p with
  | act a k ih => cases a <;> simp_all [noPlain, progAll]
  | ite c t e k iht ihe ihk => simp [noPlain, progAll, iht, ihe, ihk]
  | _ => rfl

theorem valOK_actVal (e : UEnv) (p : Bool) {a : UAct} (h : (a != .setBytesPlain) = true) : valOK p (actVal e a) := by
  cases a <;> trivial

theorem noPlain_sound (e : UEnv) (p : Bool) (pr : UProg) (o : Attrs) (hn : noPlain pr = true) (h : EncOK p o) :
    ResAll (EncOK p) (fun _ => true) true (runProg e pr o) :=
  runProg_all e (fun a o ha hI => doAct_eq e o a ▸ encOK_setA hI _ _ (valOK_actVal e p ha)) pr o (noPlain_eq pr ▸ hn) h

/-- the kinds of `updateAttr` bodies that store byte strings only through the encrypting pattern -/
def kindNoPlain : UKind → Bool
  | .prog p => noPlain p
  | .unknown => false
  | _ => true

theorem runUpdateAttr_enc (k : UKind) (e : UEnv) (n : Option (List (Nat × Option Bytes × Nat))) (o : Attrs) (oRv : RV)
    (hk : kindNoPlain k = true) (h : EncOK e.isPrivate o) : EncOK e.isPrivate (runUpdateAttr k e n o oRv).2 := by
  have hb : valOK e.isPrivate (.bytes e.bytes e.isPrivate) := Or.inr rfl
  cases k with
  | prog p =>
    have := noPlain_sound e e.isPrivate p o hk h
    simp only [runUpdateAttr]
    cases hr : runProg e p o with
    | done rv o' => rw [hr] at this; exact this.2
    | base o' => rw [hr] at this; exact encOK_setA this.2 _ _ hb
    | call o' => exact h
    | fell o' => exact h
  | bytesEnc => exact encOK_setA h _ _ hb
  | bytesEncModulus => simp only [runUpdateAttr]; split <;> first | exact encOK_setA (encOK_setA h _ _ hb) _ _ trivial | exact encOK_setA h _ _ hb
  | bytesEncPrime => simp only [runUpdateAttr]; split <;> first | exact encOK_setA (encOK_setA h _ _ hb) _ _ trivial | exact encOK_setA h _ _ hb
  | value =>
    have h1 := encOK_setA h e.selfTy _ hb
    refine encOK_iteSet (v := .unk) ?_ _ _ trivial
    refine encOK_iteSet (v := .unk) ?_ _ _ trivial
    refine encOK_iteIte h1 ?_
    exact encOK_iteSet (v := .ulong _) (encOK_iteSet (v := .ulong _) h1 _ _ trivial) _ _ trivial
  | checkValue =>
    simp only [runUpdateAttr]
    split
    · exact encOK_setA h _ _ (Or.inl rfl)
    · split
      · exact encOK_setA h _ _ hb
      · exact h
  | attrMap =>
    simp only [runUpdateAttr]
    split
    · exact h
    · split
      · exact encOK_setA h _ _ trivial
      · exact h
  | mechSet =>
    simp only [runUpdateAttr]
    split
    · exact h
    · exact encOK_setA h _ _ trivial
  | unknown => simp [kindNoPlain] at hk

theorem genericUpdate_noPlain : noPlain Gen.genericUpdate = true := by decide

def classNoPlain (cd : ClassDesc) : Bool := cd.attrs.all fun d => kindNoPlain d.upd

theorem updateAttribute_enc (d : AttrDesc) (t : TEntry) (op : Nat) (p so : Bool) (o : Attrs) (oRv : RV)
    (hk : kindNoPlain d.upd = true) (h : EncOK p o) : EncOK p (updateAttribute d t op p so o oRv).2 := by
  rcases updateAttribute_eq d t op p so o oRv with he | ⟨_, he⟩
  · rw [he]; exact runUpdateAttr_enc d.upd (mkEnv d t op p so) t.nested o oRv hk h
  · rw [he]; exact h

theorem saveTemplate_enc (cd : ClassDesc) (o : Attrs) (tpl : Template) (op : Nat) (p so : Bool) (oRv : RV) (hc : classNoPlain cd = true)
    (h : EncOK p o) (a : Attrs) (hs : saveTemplate cd o tpl op p so oRv = .ok a) : EncOK p a :=
  (applyEntries_ok (E := fun _ => True)
    (fun d hd t o1 _ _ hI hu => ⟨by
      have := updateAttribute_enc d t op p so o1 oRv (List.all_eq_true.mp hc d hd) hI
      rwa [hu] at this, trivial⟩)
    tpl o a h (saveTemplate_ok hs)).1

/-! ### the generated tables satisfy the side conditions (re-checked on every run: the tables are regenerated from the source) -/

def encOKb (o : Attrs) : Bool := o.all fun e => match e.2 with | .bytes v _ => v.isEmpty | _ => true

theorem encOKb_sound {o : Attrs} (h : encOKb o = true) (p : Bool) : EncOK p o := by
  intro ty v enc hm hne
  have := List.all_eq_true.mp h _ hm
  simp at this
  exact absurd this hne

/-- **T06**: in every object class, every attribute's `updateAttr` (as translated from P11Attributes.cpp on this run) stores byte strings only
    through the encrypting pattern, and no default value is a non-empty byte string -/
theorem classTable_noPlain : Gen.classTable.all (fun cd => classNoPlain cd && encOKb (initAttrs cd)) = true := by decide +kernel

theorem findClass_mem {a b c : Nat} {cd : ClassDesc} (h : findClass a b c = some cd) : cd ∈ Gen.classTable := by
  unfold findClass at h; exact List.mem_of_find?_eq_some h

theorem class_ok {cd : ClassDesc} (h : cd ∈ Gen.classTable) : classNoPlain cd = true ∧ ∀ p, EncOK p (initAttrs cd) := by
  have := List.all_eq_true.mp classTable_noPlain cd h
  simp only [Bool.and_eq_true] at this
  exact ⟨this.1, encOKb_sound this.2⟩

theorem encOK_saved {cls kt ct : Nat} {cd : ClassDesc} {tpl : Template} {op : Nat} {p so : Bool} {rv : RV} {a : Attrs}
    (hcd : findClass cls kt ct = some cd) (hst : saveTemplate cd (initAttrs cd) tpl op p so rv = .ok a) : EncOK p a :=
  have hc := class_ok (findClass_mem hcd)
  saveTemplate_enc _ _ _ _ _ _ _ hc.1 (hc.2 p) _ hst

end Shm
