/-
  The login-state invariant and its preservation by every call.

  The invariant is a rule per slot about three observables: who is logged in on the token (`loginAt`), whether a session is open on
  the slot (`haveSession`), whether a read-only one is (`haveROSession`).  A call changes them for its own slot only; a slot
  whose token is logged out obeys the rule whatever its sessions, and the rule survives sessions appearing and read-only sessions
  going.  So each call needs: the other slots keep their observables, and one check for its own slot.  A call that opens no
  session, erases nothing and changes no login flag keeps all three observables by `step_edits`; the nine others are walked one by
  one: there the rule of the call's own slot rests on what the call's guards checked (C_Login, C_OpenSession) or on how its change
  of the slot list follows its change of the table (C_CloseSession logs out when the last session goes).
-/
import Shm.Lemmas.HTable
import Shm.Lemmas.StepEdits
namespace Shm

/-- login state of the token in slot `id` of a slot list: (SO logged in, user logged in) -/
def loginAt (ss : List Slot) (id : Nat) : Option (Bool × Bool) :=
  (findTok ss id).map fun t => (t.soIn, t.userIn)

def loginOf (s : State) (id : Nat) : Option (Bool × Bool) := loginAt s.slots id

/-- the rule for one slot with login state `l`, `sess`: a session is open, `ro`: a read-only session is open.
    SO and user are never logged in together; while the SO is logged in no read-only session exists; a token without sessions is in the
    public state. -/
def LSlot (l : Option (Bool × Bool)) (sess ro : Bool) : Prop :=
  ∀ so us, l = some (so, us) → ¬(so = true ∧ us = true) ∧ (so = true → ro = false) ∧ (sess = false → so = false ∧ us = false)

theorem lslot_loggedOut (l : Option (Bool × Bool)) (sess ro : Bool) : LSlot (l.map fun _ => (false, false)) sess ro := by
  intro so us h
  cases l <;> simp at h
  obtain ⟨rfl, rfl⟩ := h
  exact ⟨nofun, nofun, fun _ => ⟨rfl, rfl⟩⟩

theorem LSlot.mono {l : Option (Bool × Bool)} {sess ro sess' ro' : Bool} (h : LSlot l sess ro) (hs : sess = true → sess' = true)
    (hr : ro' = true → ro = true) : LSlot l sess' ro' := by
  intro so us hl
  obtain ⟨h1, h2, h3⟩ := h so us hl
  refine ⟨h1, fun hso => ?_, fun hse => h3 ?_⟩
  · cases hro : ro' with
    | false => rfl
    | true => rw [hr hro] at h2; exact absurd (h2 hso) (by decide)
  · cases hse' : sess with
    | false => rfl
    | true => rw [hs hse'] at hse; cases hse

def LInv (ss : List Slot) (t : HTable) : Prop := ∀ id, LSlot (loginAt ss id) (t.haveSession id) (t.haveROSession id)

def LoginInv (s : State) : Prop := LInv s.slots s.handles

/-- a call addressed to slot `a`: the other slots keep their login state, lose no session and gain no read-only one -/
theorem LInv.at {ss ss' : List Slot} {t t' : HTable} (a : Nat) (h : LInv ss t)
    (hl : ∀ id, id ≠ a → loginAt ss' id = loginAt ss id)
    (hs : ∀ id, id ≠ a → t.haveSession id = true → t'.haveSession id = true)
    (hr : ∀ id, id ≠ a → t'.haveROSession id = true → t.haveROSession id = true)
    (ha : LSlot (loginAt ss' a) (t'.haveSession a) (t'.haveROSession a)) : LInv ss' t' := by
  intro id
  by_cases e : id = a
  · exact e ▸ ha
  · rw [hl id e]; exact (h id).mono (hs id e) (hr id e)

theorem LInv.tok {ss : List Slot} {tb : HTable} (h : LInv ss tb) {a : Nat} {t : Tok} (ht : findTok ss a = some t) :
    LSlot (some (t.soIn, t.userIn)) (tb.haveSession a) (tb.haveROSession a) := by
  have := h a; rwa [loginAt, ht] at this

theorem LInv.frame {ss ss' : List Slot} {t t' : HTable} (hl : ∀ id, loginAt ss' id = loginAt ss id)
    (hs : ∀ id, t'.haveSession id = t.haveSession id)
    (hr : ∀ id, t'.haveROSession id = t.haveROSession id) (h : LInv ss t) : LInv ss' t' :=
  fun id => by rw [hl, hs, hr]; exact h id

theorem stepLogin_user_iff (s : State) (h : Nat) (p : Bytes) :
    (stepLogin s h 1 (some p)).2.rv = CKR.OK ↔
      ∃ ss t, s.handles.getSess h = some ss ∧ findTok s.slots ss.slot = some t ∧
              t.soIn = false ∧ t.userIn = false ∧ t.userPin = some p := by
  unfold stepLogin
  cases hs : s.handles.getSess h with
  | none => simp [rOnly]
  | some ss =>
    cases ht : findTok s.slots ss.slot with
    | none => simp [rOnly, ht]
    | some t =>
      cases hso : t.soIn <;> cases hus : t.userIn <;> cases hup : t.userPin <;> simp [rOnly, ht, hso, hus, hup]
      next up => by_cases hp : p = up <;> simp [hp, eq_comm]

theorem stepLogin_so_iff (s : State) (h : Nat) (p : Bytes) :
    (stepLogin s h 0 (some p)).2.rv = CKR.OK ↔
      ∃ ss t, s.handles.getSess h = some ss ∧ findTok s.slots ss.slot = some t ∧
              s.handles.haveROSession ss.slot = false ∧ t.soIn = false ∧ t.userIn = false ∧ t.soPin = p := by
  unfold stepLogin
  cases hs : s.handles.getSess h with
  | none => simp [rOnly]
  | some ss =>
    cases ht : findTok s.slots ss.slot with
    | none => simp [rOnly, ht]
    | some t =>
      cases hro : s.handles.haveROSession ss.slot <;> cases hso : t.soIn <;> cases hus : t.userIn <;> simp [rOnly, ht, hro, hso, hus]
      by_cases hp : p = t.soPin <;> simp [hp, eq_comm]

theorem LInv.of_all_loggedOut {ss : List Slot} (h : ∀ sl ∈ ss, ∀ t, sl.tok = some t → t.soIn = false ∧ t.userIn = false) (tb : HTable) :
    LInv ss tb := by
  intro id so us hl
  unfold loginAt at hl
  cases hf : findTok ss id with
  | none => simp [hf] at hl
  | some t =>
    obtain ⟨sl, hm, ht⟩ := findTok_mem hf
    have := h sl hm t ht
    simp [hf, this.1, this.2] at hl
    obtain ⟨rfl, rfl⟩ := hl
    exact ⟨nofun, nofun, fun _ => ⟨rfl, rfl⟩⟩

theorem loginAt_setTok (ss : List Slot) (id : Nat) (t : Tok) (id' : Nat) (hs : (findSlot ss id).isSome) :
    loginAt (setTok ss id t) id' = if id' = id then some (t.soIn, t.userIn) else loginAt ss id' := by
  unfold loginAt
  rw [findTok_setTok]
  by_cases h : id' = id
  · subst h; simp [hs]
  · simp [h]

theorem loginAt_logoutSlot (ss : List Slot) (id id' : Nat) :
    loginAt (logoutSlot ss id) id' = if id' = id then (loginAt ss id').map (fun _ => (false, false)) else loginAt ss id' := by
  unfold loginAt
  rw [findTok_logoutSlot]
  by_cases h : id' = id
  · subst h; simp; cases findTok ss id' <;> rfl
  · simp [h]

theorem SlotEdit.loginAt_eq {a : Option Nat} {pins : Bool} {ss ss' : List Slot} (h : SlotEdit a pins false ss ss') (id : Nat) :
    loginAt ss' id = loginAt ss id := by
  cases h with
  | keep => rfl
  | free => unfold loginAt; rw [findTok_ensureFreeSlot]
  | setTok slot t' _ _ hl =>
    obtain ⟨t, ht, h1, h2⟩ := hl rfl
    rw [loginAt_setTok _ _ _ _ (findTok_some_findSlot ht)]
    split
    · next e => rw [e, loginAt, ht, h1, h2]; rfl
    · rfl
  | logout _ _ hl => cases hl

theorem loginAt_logoutSlot_same {ss : List Slot} {id : Nat} {t : Tok} (ht : findTok ss id = some t) :
    loginAt (logoutSlot ss id) id = some (false, false) := by
  rw [loginAt_logoutSlot, if_pos rfl, loginAt, ht]; rfl

theorem LInv.setTok {ss : List Slot} {tb : HTable} {a : Nat} (t' : Tok) (h : LInv ss tb) (hs : (findSlot ss a).isSome)
    (ha : LSlot (some (t'.soIn, t'.userIn)) (tb.haveSession a) (tb.haveROSession a)) : LInv (setTok ss a t') tb :=
  h.at a (fun id e => by rw [loginAt_setTok _ _ _ _ hs, if_neg e]) (fun _ _ h => h) (fun _ _ h => h)
    (by rw [loginAt_setTok _ _ _ _ hs, if_pos rfl]; exact ha)

/-- slot `a` logged out; the sessions may have changed on slot `a` in any way -/
theorem LInv.logout {ss : List Slot} {t t' : HTable} (a : Nat) (h : LInv ss t)
    (hs : ∀ id, id ≠ a → t.haveSession id = true → t'.haveSession id = true)
    (hr : ∀ id, id ≠ a → t'.haveROSession id = true → t.haveROSession id = true) : LInv (logoutSlot ss a) t' :=
  h.at a (fun id e => by rw [loginAt_logoutSlot, if_neg e]) hs hr (by rw [loginAt_logoutSlot, if_pos rfl]; exact lslot_loggedOut _ _ _)

/-- a predicate that sees of a session only its slot and R/W flag -/
def SlotRw (q : Ent → Bool) : Prop := SessOnly q ∧ ∀ x y : Sess, x.slot = y.slot → x.rw = y.rw → q (.sess x) = q (.sess y)

theorem slotRw_isSessOn (slot : Nat) : SlotRw (isSessOn slot) := ⟨fun _ => rfl, fun x y h1 _ => by simp [isSessOn, h1]⟩
theorem slotRw_isROSessOn (slot : Nat) : SlotRw (isROSessOn slot) := ⟨fun _ => rfl, fun x y h1 h2 => by simp [isROSessOn, h1, h2]⟩

theorem TableEdit.anyE_eq {t t' : HTable} {c c' : Nat} (h : TableEdit false false t c t' c') (hw : t.WF c) {q : Ent → Bool} (hq : SlotRw q) :
    anyE t' q = anyE t q := by
  induction h with
  | keep => rfl
  | append t c e he =>
    rw [anyE_append]
    cases e with
    | sess x => cases he rfl
    | obj o => rw [hq.1 o, Bool.or_false]
  | setSess t c h ss x hs h1 h2 =>
    refine anyE_setSess _ _ _ _ fun e he => ?_
    rw [mem_unique hw he (getSess_mem hs)]
    simp only [updSess, beq_self_eq_true, if_true, replSess]
    exact hq.2 _ _ h1 h2
  | erase _ _ _ hp => cases hp
  | trans h1 _ ih1 ih2 => rw [ih2 (h1.wf hw), ih1 hw]

theorem LInv.setSess {ss : List Slot} {t : HTable} {c k : Nat} {x0 x : Sess} (hw : t.WF c) (hs : t.getSess k = some x0)
    (h1 : x.slot = x0.slot) (h2 : x.rw = x0.rw) (h : LInv ss t) : LInv ss (t.setSess k x) :=
  have e := TableEdit.setSess (purge := false) (opens := false) t c k x0 x hs h1 h2
  h.frame (fun _ => rfl) (fun id => e.anyE_eq hw (slotRw_isSessOn id)) (fun id => e.anyE_eq hw (slotRw_isROSessOn id))

theorem isSessOn_other {e : Ent} {slot id : Nat} (he : e.slot = slot) (hne : id ≠ slot) : isSessOn id e = false := by
  cases e <;> simp only [isSessOn, Ent.slot, beq_eq_false_iff_ne] at he ⊢
  exact fun h => hne (h.symm.trans he)

theorem isROSessOn_other {e : Ent} {slot id : Nat} (he : e.slot = slot) (hne : id ≠ slot) : isROSessOn id e = false := by
  cases e <;> simp only [isROSessOn, Ent.slot, Bool.and_eq_false_imp, beq_iff_eq] at he ⊢
  exact fun h => absurd (h.symm.trans he) hne

theorem linv_initialize (s : State) (h : LoginInv s) : LoginInv (stepInitialize s).1 := by
  cases hi : s.initialised
  · refine LInv.of_all_loggedOut (fun sl hsl t ht => ?_) _
    obtain ⟨_, _, t0, _, rfl⟩ := mem_stepInitialize_slots hi hsl ht
    cases ht; exact ⟨rfl, rfl⟩
  · simpa [stepInitialize, hi, rOnly] using h

theorem linv_finalize (s : State) (h : LoginInv s) : LoginInv (stepFinalize s).1 := by
  unfold stepFinalize
  split
  · exact h
  · refine LInv.of_all_loggedOut (fun sl hsl t ht => ?_) _
    obtain ⟨sl0, _, hsl0⟩ := List.mem_map.mp hsl
    rw [← hsl0] at ht
    cases ht0 : sl0.tok with
    | none => simp [ht0] at ht
    | some t0 => simp [ht0, Tok.logout] at ht; rw [← ht]; exact ⟨rfl, rfl⟩

theorem linv_initToken (s : State) (slot : Nat) (pin : Option Bytes) (label ser : Bytes) (h : LoginInv s) :
    LoginInv (stepInitToken s slot pin label ser).1 := by
  unfold LoginInv at *
  unfold stepInitToken
  split
  · exact h
  next sl hsl =>
    have hsome : (findSlot s.slots slot).isSome := by simp [hsl]
    step_cases <;> first | exact h | skip
    · -- wrong SO PIN: only the PIN-count-low flag is set
      next t ht _ =>
      exact h.setTok _ hsome (h.tok (t := t) (findTok_of_findSlot hsl ht))
    · exact h.setTok _ hsome (lslot_loggedOut (some (true, true)) _ _)
    · exact h.setTok _ hsome (lslot_loggedOut (some (true, true)) _ _)

theorem linv_openSession (s : State) (slot flags : Nat) (h : LoginInv s) : LoginInv (stepOpenSession s slot flags).1 := by
  unfold LoginInv at *
  unfold stepOpenSession
  step_cases <;> first | exact h | skip
  next _ sl hsl _ _ t ht hrefuse =>
  have hla : loginAt s.slots slot = some (t.soIn, t.userIn) := by rw [loginAt, findTok_of_findSlot hsl ht]; rfl
  refine h.at slot (fun _ _ => rfl) (fun id _ hs => by rw [haveSession_append_sess, hs]; rfl)
    (fun id e hr => by rw [haveROSession_append_sess] at hr; simpa [show (slot == id) = false by simpa using Ne.symm e] using hr) ?_
  -- a read-only session is refused while the SO is logged in
  rw [haveSession_append_sess, haveROSession_append_sess, beq_self_eq_true, Bool.or_true, Bool.true_and]
  intro so us hl
  obtain ⟨h1, h2, -⟩ := h slot so us hl
  rw [hla] at hl
  refine ⟨h1, fun hso => ?_, nofun⟩
  have hso' : t.soIn = true := by rw [← hso]; exact (Prod.mk.inj (Option.some.inj hl)).1
  simp only [hso', Bool.and_true, Bool.not_eq_true', Bool.not_eq_false] at hrefuse
  simp [h2 hso, hrefuse]

theorem linv_closeAll (s : State) (slot : Nat) (h : LoginInv s) : LoginInv (stepCloseAll s slot).1 := by
  unfold LoginInv at *
  unfold stepCloseAll
  split
  · exact h
  · exact h.logout slot
      (fun id e hs => by rw [haveSession_anyE, anyE_allSessionsClosed_other _ _ _ fun x hx => isSessOn_other hx e]; exact hs)
      (fun id e hr => by rwa [haveROSession_anyE, anyE_allSessionsClosed_other _ _ _ fun x hx => isROSessOn_other hx e] at hr)

theorem linv_logout (s : State) (k : Nat) (h : LoginInv s) : LoginInv (stepLogout s k).1 := by
  unfold LoginInv at *
  unfold stepLogout
  step_cases <;> first | exact h | skip
  next ss _ _ _ _ =>
  have hq : ∀ q, SessOnly q → anyE (s.handles.tokenLoggedOut ss.slot) q = anyE s.handles q :=
    fun q hq => anyE_eraseIf_objs _ _ q hq fun _ _ => rfl
  exact h.logout ss.slot (fun id _ hs => by rw [haveSession_anyE, hq _ (sessOnly_isSessOn id)]; exact hs)
    (fun id _ hr => by rwa [haveROSession_anyE, hq _ (sessOnly_isROSessOn id)] at hr)

theorem linv_closeSession (s : State) (hwf : s.WF) (k : Nat) (h : LoginInv s) : LoginInv (stepCloseSession s k).1 := by
  unfold LoginInv at *
  unfold stepCloseSession
  split
  · exact h
  next ss hs =>
    dsimp only
    have hmem := getSess_mem hs
    have hSess : ∀ id, (s.handles.sessionClosed k).haveSession id = s.handles.any (fun e => e.1 != k && isSessOn id e.2) :=
      fun id => anyE_sessionClosed s.handles k ss hs _ (sessOnly_isSessOn id)
    have hRO : ∀ id, (s.handles.sessionClosed k).haveROSession id = s.handles.any (fun e => e.1 != k && isROSessOn id e.2) :=
      fun id => anyE_sessionClosed s.handles k ss hs _ (sessOnly_isROSessOn id)
    -- the sessions of the other slots are not the one that goes
    have hs' : ∀ id, id ≠ ss.slot → s.handles.haveSession id = true → (s.handles.sessionClosed k).haveSession id = true := by
      intro id hid hse
      rw [haveSession_anyE, anyE_true_iff] at hse
      obtain ⟨e, he, hq⟩ := hse
      rw [hSess, List.any_eq_true]
      refine ⟨e, he, ?_⟩
      have hne : e.1 ≠ k := by
        intro hek
        obtain ⟨a, v⟩ := e
        simp at hek; subst hek
        rw [mem_unique hwf he hmem] at hq
        simp [isSessOn] at hq
        exact hid hq.symm
      simp [hq, hne]
    have hr' : ∀ id, (s.handles.sessionClosed k).haveROSession id = true → s.handles.haveROSession id = true :=
      fun id hr => any_mono _ _ _ (fun a ha => by simp at ha; exact ha.2) (hRO id ▸ hr)
    split
    · exact h.logout ss.slot hs' fun id _ => hr' id
    · next hl =>
      -- another session of the slot remains
      refine h.at ss.slot (fun _ _ => rfl) hs' (fun id _ => hr' id) ((h ss.slot).mono (fun _ => ?_) (hr' _))
      rw [hSess]
      rw [haveSession_anyE, anyE_eraseIf] at hl
      simpa using hl

/-- C_Login: the guards it checks (no read-only session for the SO, the other user not logged in) are what the rule of the slot needs -/
theorem linv_login (s : State) (hwf : s.WF) (k u : Nat) (p : Option Bytes) (h : LoginInv s) : LoginInv (stepLogin s k u p).1 := by
  unfold LoginInv at *
  unfold stepLogin
  split
  · exact h
  next ss hs =>
    have hsess := haveSession_of_getSess hs
    split
    · exact h
    next p =>
      split
      · exact h
      next t ht =>
        have hsome := findTok_some_findSlot ht
        have hcur := h.tok ht
        step_cases <;> first
          | exact h
          | exact h.setTok _ hsome hcur
          | exact LInv.setSess hwf hs (by rfl) (by rfl) (h.setTok _ hsome hcur)
          | skip
        · -- SO: no read-only session, the user is not logged in
          next hro hu _ _ =>
          refine h.setTok _ hsome ?_
          show LSlot (some (true, t.userIn)) _ _
          simp only [Bool.not_eq_true] at hro hu
          intro so us hl
          cases hl
          exact ⟨by simp [hu], fun _ => hro, fun hse => (by rw [hsess] at hse; cases hse)⟩
        · -- user: the SO is not logged in
          next hso _ _ _ _ _ =>
          refine h.setTok _ hsome ?_
          show LSlot (some (t.soIn, true)) _ _
          simp only [Bool.not_eq_true] at hso
          intro so us hl
          cases hl
          exact ⟨by simp [hso], fun h => (by rw [hso] at h; cases h), fun hse => (by rw [hsess] at hse; cases hse)⟩

theorem linv_destroy (s : State) (hwf : s.WF) (k o : Nat) (h : LoginInv s) : LoginInv (stepDestroy s k o).1 := by
  unfold LoginInv at *
  unfold stepDestroy
  step_cases <;> first | exact h | skip
  exact h.frame (fun _ => rfl) (fun id => anyE_destroyObject s.handles o _ (sessOnly_isSessOn id) s.counter hwf)
    (fun id => anyE_destroyObject s.handles o _ (sessOnly_isROSessOn id) s.counter hwf)

theorem linv_init : LoginInv {} := fun id so us hl => by simp [loginAt, findTok, findSlot] at hl

theorem linv_step (s : State) (c : Call) (hwf : s.WF) (h : LoginInv s) : LoginInv (step s c).1 := by
  have quiet : c.changesLogin = false → c.opensSession = false → C11.isPurging c = false → LoginInv (step s c).1 := fun h1 h2 h3 => by
    have e := step_edits s c (fun e => by subst e; cases h1) (fun e => by subst e; cases h1)
    have et := e.table; have es := e.slots
    rw [h3, h2] at et; rw [h1] at es
    exact h.frame es.loginAt_eq (fun id => et.anyE_eq hwf (slotRw_isSessOn id)) (fun id => et.anyE_eq hwf (slotRw_isROSessOn id))
  cases c
  case initLib => exact linv_initialize s h
  case finiLib => exact linv_finalize s h
  all_goals first | exact quiet rfl rfl rfl | (simp only [step, guardInit]; split; · exact h)
  case initToken => exact linv_initToken s _ _ _ _ h
  case openSession => exact linv_openSession s _ _ h
  case closeSession => exact linv_closeSession s hwf _ h
  case closeAll => exact linv_closeAll s _ h
  case login => exact linv_login s hwf _ _ _ h
  case logout => exact linv_logout s _ h
  case destroy => exact linv_destroy s hwf _ _ h

theorem linv_run (s : State) (cs : List Call) (hwf : s.WF) (h : LoginInv s) : LoginInv (run s cs) :=
  (foldl_inv (P := fun s => s.WF ∧ LoginInv s) cs (fun s c _ h => ⟨wf_step s c h.1, linv_step s c h.1 h.2⟩) ⟨hwf, h⟩).2

end Shm
