/-
  Which calls can change a PIN: a frame lemma over the whole machine.  `pinOf` looks at a slot of ONE library instance;
  what survives re-initialisation is stated per token (by serial) in Props/C04 and Props/C14.
-/
import Shm.Lemmas.Runs
namespace Shm

/-- the PINs of the token in slot `id` (none: no slot / not initialised) -/
def pinOf (ss : List Slot) (id : Nat) : Option (Bytes × Option Bytes) := (findTok ss id).map fun t => (t.soPin, t.userPin)

def PinsKept (s s' : State) : Prop := ∀ id, pinOf s'.slots id = pinOf s.slots id

theorem PinsKept.refl (s : State) : PinsKept s s := fun _ => rfl
theorem pinsKept_same {s s' : State} (h : s'.slots = s.slots) : PinsKept s s' := fun id => by rw [h]

theorem pinOf_setTok_same (ss : List Slot) (slot : Nat) (t t' : Tok) (hf : findTok ss slot = some t)
    (h1 : t'.soPin = t.soPin) (h2 : t'.userPin = t.userPin) (id : Nat) : pinOf (setTok ss slot t') id = pinOf ss id := by
  unfold pinOf
  rw [findTok_setTok]
  by_cases h : id = slot
  · subst h
    have := findTok_some_findSlot hf
    simp [this, hf, h1, h2]
  · simp [h]

theorem pinOf_logoutSlot (ss : List Slot) (slot id : Nat) : pinOf (logoutSlot ss slot) id = pinOf ss id := by
  unfold pinOf
  rw [findTok_logoutSlot]
  by_cases h : id = slot
  · simp only [h, if_true, Option.map_map]; cases findTok ss slot <;> simp [Tok.logout]
  · simp [h]

theorem pinsKept_logoutSlot {s s' : State} (slot : Nat) (hs : s'.slots = logoutSlot s.slots slot) : PinsKept s s' :=
  fun id => by rw [hs]; exact pinOf_logoutSlot _ _ _

theorem pinsKept_logoutIf {s s' : State} (c : Bool) (slot : Nat) (hs : s'.slots = if c then logoutSlot s.slots slot else s.slots) : PinsKept s s' := by
  cases c
  · exact pinsKept_same (by simpa using hs)
  · exact pinsKept_logoutSlot slot (by simpa using hs)

theorem SlotEdit.pinOf_eq {a : Option Nat} {login : Bool} {ss ss' : List Slot} (h : SlotEdit a false login ss ss') (id : Nat) : pinOf ss' id = pinOf ss id := by
  cases h with
  | keep => rfl
  | free => unfold pinOf; rw [findTok_ensureFreeSlot]
  | setTok slot t' _ hp _ => obtain ⟨t, ht, h1, h2⟩ := hp rfl; exact pinOf_setTok_same _ _ _ _ ht h1 h2 id
  | logout slot _ _ => exact pinOf_logoutSlot _ _ _

theorem pinsKept_finalize (s : State) : PinsKept s (stepFinalize s).1 := by
  unfold stepFinalize
  split
  · exact PinsKept.refl _
  · intro id
    simp only [pinOf, findTok_map_logout, Option.map_map]
    cases findTok s.slots id <;> simp [Tok.logout]

theorem addObject_slots (s : State) (slot h : Nat) (t p : Bool) (a : Attrs) : (addObject s slot h t p a).1.slots = s.slots := rfl

theorem pinsKept_restart (s : State) : PinsKept s (stepRestart s).1 := by
  have := pinsKept_finalize { s with initialised := true }
  intro id
  have h := this id
  simpa [stepRestart] using h

def AnyCall.isPinCall : AnyCall → Bool
  | .core c => c.isPinCall
  | _ => false

/-- **frame**: within one library instance, only C_InitToken, C_InitPIN and C_SetPIN can change any PIN of any token -/
theorem pinsKept_stepAny (s : State) (c : AnyCall) (hc : c.isPinCall = false) : PinsKept s (stepAny s c).1 := by
  cases c with
  | core c =>
    by_cases h2 : c = .finiLib
    · subst h2; exact pinsKept_finalize s
    · have h := (step_edits s c (fun h1 => by subst h1; cases hc) h2).slots
      rw [show c.isPinCall = false from hc] at h
      exact h.pinOf_eq
  | op c => exact pinsKept_same (stepOp_creates s c).slots
  | restart => exact pinsKept_restart s

end Shm
