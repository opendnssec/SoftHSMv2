/-
  The token objects of an object list as seen through a projection `g` (identity, privacy, attributes: `C05.tokView`), under the two things that
  happen to the list between processes and library instances: re-slotting (C_Initialize) and carrying to another process (`adopt`).
-/
import Shm.Model.Types
namespace Shm

/-- a map `f` that keeps the token objects as far as `g` sees them does not change the `g`-view of the token objects -/
theorem map_filterMap_token {β : Type} (g : Obj → β) (l : List Obj) (f : Obj → Option Obj)
    (hf : ∀ o ∈ l, o.onToken = true → ∃ o', f o = some o' ∧ g o' = g o ∧ o'.onToken = true) :
    (((l.filter (·.onToken)).filterMap f).filter (·.onToken)).map g = (l.filter (·.onToken)).map g := by
  induction l with
  | nil => rfl
  | cons o os ih =>
    have ih' := ih (fun x hx => hf x (List.mem_cons_of_mem _ hx))
    by_cases ht : o.onToken = true
    · obtain ⟨o', h1, h2, h3⟩ := hf o List.mem_cons_self ht
      simp only [List.filter_cons, ht, if_true, List.filterMap_cons, h1, h3, List.map_cons, ih', h2]
    · simp only [List.filter_cons, ht, Bool.false_eq_true, if_false]
      exact ih'

theorem map_map_token {β : Type} (g : Obj → β) (l : List Obj) (f : Obj → Obj) (hf : ∀ o, g (f o) = g o ∧ (f o).onToken = o.onToken) :
    (((l.filter (·.onToken)).map f).filter (·.onToken)).map g = (l.filter (·.onToken)).map g := by
  have := map_filterMap_token g l (some ∘ f) fun o _ ht => ⟨f o, rfl, (hf o).1, (hf o).2.trans ht⟩
  rwa [List.filterMap_eq_map] at this

end Shm
