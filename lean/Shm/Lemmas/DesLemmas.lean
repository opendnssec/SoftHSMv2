/-
  The Feistel structure of DES inverts itself under the reversed key schedule - for EVERY round function and EVERY key schedule.
-/
import Shm.Crypto.DES
namespace Shm.Crypto.DES

theorem rounds_cons {K : Type} (f : K → UInt32 → UInt32) (k : K) (ks : List K) (l r : UInt32) :
    rounds f (k :: ks) (l, r) = rounds f ks (r, l ^^^ f k r) := rfl

theorem rounds_append_single {K : Type} (f : K → UInt32 → UInt32) (k : K) (ks : List K) (x : UInt32 × UInt32) :
    rounds f (ks ++ [k]) x = ((rounds f ks x).2, (rounds f ks x).1 ^^^ f k (rounds f ks x).2) := by
  simp [rounds, List.foldl_append]

/-- running the rounds again on the exchanged halves with the reversed schedule gives the exchanged input back -/
theorem rounds_inverse {K : Type} (f : K → UInt32 → UInt32) (ks : List K) (l r : UInt32) :
    rounds f ks.reverse ((rounds f ks (l, r)).2, (rounds f ks (l, r)).1) = (r, l) := by
  induction ks generalizing l r with
  | nil => rfl
  | cons k ks ih =>
    rw [rounds_cons, List.reverse_cons, rounds_append_single, ih]
    rw [UInt32.xor_assoc, UInt32.xor_self, UInt32.xor_zero]

theorem core_inverse {K : Type} (f : K → UInt32 → UInt32) (ks : List K) (x : UInt32 × UInt32) :
    core f ks.reverse (core f ks x) = x := by
  obtain ⟨l, r⟩ := x
  simp only [core]
  rw [rounds_inverse]

end Shm.Crypto.DES
