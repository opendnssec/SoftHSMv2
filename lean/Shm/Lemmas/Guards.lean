/-
  Reading a successful call backwards through its guards: a guard that refuses with a code other than CKR_OK was not
  taken (`ite_refuse`), a dispatch table that satisfies a check satisfies it at the entry found (`tblFind_all`), and the
  parameter switches at the top of C_WrapKey / C_UnwrapKey refuse only with codes of a fixed list (`ParamErr`); `saveTemplate`
  reports no CKR_OK as an error, and marking attributes unknown leaves the others alone.
-/
import Shm.Model.Wrap
import Shm.Lemmas.Attrs
import Shm.Lemmas.Lists
namespace Shm

theorem tblFind_mem {β} {t : List (Nat × β)} {m : Nat} {x : β} (h : tblFind t m = some x) : (m, x) ∈ t := by
  obtain ⟨⟨a, b⟩, hf, rfl⟩ := Option.map_eq_some_iff.mp h
  have ha : a = m := by simpa using List.find?_some hf
  exact ha ▸ List.mem_of_find?_eq_some hf

theorem tblFind_all {β} {t : List (Nat × β)} {f : Nat × β → Bool} (hall : t.all f = true) {m : Nat} {x : β}
    (h : tblFind t m = some x) : f (m, x) = true :=
  List.all_eq_true.mp hall _ (tblFind_mem h)

theorem guardInit_of_init {s : State} (hi : s.initialised = true) (r : State × Resp) : guardInit s r = r := by
  simp [guardInit, hi]

theorem guardInit_ok {s : State} {r : State × Resp} (h : (guardInit s r).2.rv = CKR.OK) : s.initialised = true := by
  cases hi : s.initialised
  · simp [guardInit, hi, rOnly] at h
  · rfl

/-- a guard that refuses with a constant code other than CKR_OK: a successful call did not take it -/
theorem ite_refuse {c : Prop} [Decidable c] (s : State) (e : RV) (x : State × Resp) (he : e ≠ CKR.OK)
    (h : (if c then rOnly s e else x).2.rv = CKR.OK) : ¬c ∧ x.2.rv = CKR.OK := by
  by_cases hc : c
  · rw [if_pos hc] at h; exact absurd h he
  · rw [if_neg hc] at h; exact ⟨hc, h⟩

/-- a guard that passes an access-check code through when it is not CKR_OK -/
theorem ite_refuse_acc (s : State) (a : RV) (x : State × Resp)
    (h : (if (a != CKR.OK) = true then rOnly s a else x).2.rv = CKR.OK) : a = CKR.OK ∧ x.2.rv = CKR.OK := by
  by_cases hc : (a != CKR.OK) = true
  · rw [if_pos hc] at h; exact absurd h (bne_iff_ne.mp hc)
  · rw [if_neg hc] at h; exact ⟨by simpa using hc, h⟩

theorem stepDestroy_ok {s : State} {h o : Nat} (hok : (stepDestroy s h o).2.rv = CKR.OK) :
    ∃ e ob, resolveObj s o = some (e, ob) ∧
      (stepDestroy s h o).1 = { s with handles := s.handles.destroyObject o, objs := s.objs.filter (·.oid != ob.oid) } := by
  unfold stepDestroy at hok ⊢
  split at hok
  · split at hok <;> cases hok
  split at hok
  · cases hok
  next e ob hres =>
    obtain ⟨h1, hok⟩ := ite_refuse_acc _ _ _ hok
    obtain ⟨h2, -⟩ := ite_refuse _ _ _ (by decide) hok
    refine ⟨e, ob, hres, ?_⟩
    rw [if_neg (by simp [h1]), if_neg h2]

theorem saveTemplate_error_ne_ok {cd : ClassDesc} {o : Attrs} {tpl : Template} {op : Nat} {p so : Bool} {oRv e : RV}
    (h : saveTemplate cd o tpl op p so oRv = .error e) : e ≠ CKR.OK := by
  unfold saveTemplate at h
  by_cases c1 : (op == OP.SET && !getBoolD o CKA.MODIFIABLE true) = true
  · rw [if_pos c1] at h; cases h; decide
  rw [if_neg c1] at h
  by_cases c2 : (op == OP.COPY && !getBoolD o CKA.COPYABLE true) = true
  · rw [if_pos c2] at h; cases h; decide
  rw [if_neg c2] at h
  rcases hr : applyEntries cd op p so oRv tpl o with ⟨rv, o'⟩
  rw [hr] at h
  dsimp only at h
  by_cases c3 : (rv != CKR.OK) = true
  · rw [if_pos c3] at h; cases h; exact bne_iff_ne.mp c3
  rw [if_neg c3] at h
  split at h <;> cases h
  decide

theorem getA_markUnk_other (tys : List Nat) (ty : Nat) (hn : ty ∉ tys) : ∀ (a : Attrs), getA (markUnk a tys) ty = getA a ty := by
  unfold markUnk
  induction tys with
  | nil => intro a; rfl
  | cons t ts ih =>
    intro a
    rw [List.foldl_cons, ih (fun h => hn (List.mem_cons_of_mem _ h)), getA_ite, getA_setA_other _ _ _ _ (fun h => hn (by rw [h]; exact List.mem_cons_self)), ite_self]

/-- the codes with which `wrapParamErr` / `unwrapParamErr` refuse -/
def paramErrCodes : List RV := [CKR.ARGUMENTS_BAD, CKR.MECHANISM_PARAM_INVALID, CKR.MECHANISM_INVALID, CKR.WRAPPED_KEY_LEN_RANGE]

def ParamErr (r : Option RV) : Prop := ∀ e, r = some e → e ∈ paramErrCodes

theorem paramErr_none : ParamErr none := fun _ h => nomatch h

theorem paramErr_some {c : RV} (h : c ∈ paramErrCodes) : ParamErr (some c) := fun _ he => Option.some.inj he ▸ h

/-- the one leaf that passes the observed code on does so under the test that it is one of the list -/
theorem paramErr_observed (oRv : RV) :
    ParamErr (if oRv == CKR.ARGUMENTS_BAD || oRv == CKR.MECHANISM_PARAM_INVALID then some oRv else none) :=
  ite_ind (fun hc => paramErr_some (by
    rcases Bool.or_eq_true _ _ ▸ hc with hc | hc <;> rw [beq_iff_eq.mp hc] <;> decide)) fun _ => paramErr_none

-- both switches are trees of `if` whose leaves are `none`, a constant of the list, or the leaf above
theorem wrapParamErr_codes (mech : Nat) (p : MParam) (oRv : RV) : ParamErr (wrapParamErr mech p oRv) := by
  unfold wrapParamErr
  repeat' first
    | exact paramErr_none | exact paramErr_some (by decide) | exact paramErr_observed oRv | refine ite_ind (fun _ => ?_) fun _ => ?_

theorem unwrapParamErr_codes (mech : Nat) (p : MParam) (n : Nat) (oRv : RV) : ParamErr (unwrapParamErr mech p n oRv) := by
  unfold unwrapParamErr
  repeat' first
    | exact paramErr_none | exact paramErr_some (by decide) | exact paramErr_observed oRv | refine ite_ind (fun _ => ?_) fun _ => ?_

theorem ParamErr.ne_ok {r : Option RV} (h : ParamErr r) {e : RV} (he : r = some e) : e ≠ CKR.OK := by
  rintro rfl; exact absurd (h _ he) (by decide)

end Shm
