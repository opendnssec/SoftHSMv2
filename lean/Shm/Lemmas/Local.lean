/-
  The session-local calls: every multi-part / single-part cryptographic call, every C_*Init and C_DigestKey.  Each step function is
  a tree of `if`s and `match`es whose leaves are `rOnly`, `setOp`, `resetOp`, `finishOp` and `startOp`, under `lenProto` where output is produced; a property of
  all of them is one lemma per form and one walk per step function.  Two such properties: `Twin` (read with the same state
  twice it is write locality, `Lc`; read with another session's record replaced it is the frame property of `Lemmas/Commute.lean`)
  and `Quiet` (C12).
-/
import Shm.Model.Machine
import Shm.Lemmas.Lists
namespace Shm

/-- `s` with the record of session `h1` replaced by `x` (nothing, if `h1` is not a session) -/
def withSess (s : State) (h1 : Nat) (x : Sess) : State := { s with handles := s.handles.setSess h1 x }

/-- the result `a` of a call in state `s` left the state as it was or replaced the record of session `h`, nothing else -/
def Lc (h : Nat) (s : State) (a : State × Resp) : Prop := a.1 = s ∨ ∃ y, a.1 = withSess s h y

theorem lc_same (h : Nat) (s : State) (r : Resp) : Lc h s (s, r) := Or.inl rfl
theorem lc_finish (h : Nat) (s : State) (ss : Sess) (rv : RV) (n : Nat) (od : Option Bytes) : Lc h s (finishOp s h ss rv n od) := Or.inr ⟨_, rfl⟩

/-- what a session-local call on session `h` reads is the same in `s₂` as in `s` -/
structure Alike (h : Nat) (s s₂ : State) : Prop where
  sess : s₂.handles.getSess h = s.handles.getSess h
  obj : ∀ k, resolveObj s₂ k = resolveObj s k
  slots : s₂.slots = s.slots
  cfg : s₂.mechCfg = s.mechCfg
  init : s₂.initialised = s.initialised

theorem Alike.refl (h : Nat) (s : State) : Alike h s s := ⟨rfl, fun _ => rfl, rfl, rfl, rfl⟩

/-- `a`, `a₂` (the results of one call in `s` and in `s₂`) carry the same answer and made the same change: none, or the same new
    record of session `h` -/
def Twin (h : Nat) (s s₂ : State) (a a₂ : State × Resp) : Prop :=
  a₂.2 = a.2 ∧ ((a.1 = s ∧ a₂.1 = s₂) ∨ ∃ y, a.1 = withSess s h y ∧ a₂.1 = withSess s₂ h y)

theorem Twin.lc {h : Nat} {s s₂ : State} {a a₂ : State × Resp} (t : Twin h s s₂ a a₂) : Lc h s a := t.2.imp (·.1) fun ⟨y, e, _⟩ => ⟨y, e⟩

section
variable {h : Nat} {s s₂ : State}

theorem tw_ite {c : Prop} [Decidable c] {a b a₂ b₂ : State × Resp} (ha : Twin h s s₂ a a₂) (hb : Twin h s s₂ b b₂) :
    Twin h s s₂ (if c then a else b) (if c then a₂ else b₂) := by
  split <;> assumption
theorem tw_same (r : Resp) : Twin h s s₂ (s, r) (s₂, r) := ⟨rfl, .inl ⟨rfl, rfl⟩⟩
theorem tw_rOnly (e : RV) : Twin h s s₂ (rOnly s e) (rOnly s₂ e) := tw_same _
theorem tw_setOp (ss : Sess) (k : OpKind) (d : OpDetail) (r : Resp) : Twin h s s₂ (setOp s h ss k d, r) (setOp s₂ h ss k d, r) :=
  ⟨rfl, .inr ⟨_, rfl, rfl⟩⟩
theorem tw_reset (ss : Sess) (r : Resp) : Twin h s s₂ (resetOp s h ss, r) (resetOp s₂ h ss, r) := tw_setOp ..
theorem tw_finish (ss : Sess) (rv : RV) (n : Nat) (od : Option Bytes) : Twin h s s₂ (finishOp s h ss rv n od) (finishOp s₂ h ss rv n od) :=
  tw_reset ..
theorem tw_lenProto (ss : Sess) (need : Nat) (cap : Option Nat) {p p₂ : State × Resp} (hp : Twin h s s₂ p p₂) :
    Twin h s s₂ (lenProto s h ss need cap p) (lenProto s₂ h ss need cap p₂) := by
  unfold lenProto
  cases cap with
  | none => exact tw_same _
  | some c => exact tw_ite (tw_same _) hp
theorem tw_startOp (ss : Sess) (k : OpKind) (late : Option RV) (d : OpDetail) : Twin h s s₂ (startOp s h ss k late d) (startOp s₂ h ss k late d) := by
  unfold startOp
  cases late with
  | some e => exact tw_rOnly _
  | none => exact tw_setOp ..

/-- Walk down the `if`s and `lenProto`s of an unfolded step function, the same tree on both sides once what the guards read has been
    rewritten by `Alike`, and close every leaf by its lemma.  `tw_startOp` comes before the `setOp` forms: tried on a `startOp`
    leaf those unfold it. -/
macro "tw_peel" : tactic =>
  `(tactic| repeat' (first
      | apply tw_ite
      | apply tw_lenProto
      | exact tw_rOnly _
      | exact tw_startOp _ _ _ _
      | exact tw_reset _ _
      | exact tw_setOp _ _ _ _))

theorem twin_updateLike (hv : Alike h s s₂) (kind : OpKind) (i : Option Nat) (oRv : RV) :
    Twin h s s₂ (stepUpdateLike s kind h i oRv) (stepUpdateLike s₂ kind h i oRv) := by
  unfold stepUpdateLike
  cases i with
  | none => exact tw_rOnly _
  | some n =>
    rw [hv.sess]
    cases s.handles.getSess h with
    | none => exact tw_rOnly _
    | some ss => tw_peel

theorem twin_signLike (hv : Alike h s s₂) (kind : OpKind) (i cap : Option Nat) (oRv : RV) (od : Option Bytes) :
    Twin h s s₂ (stepSignLike s kind h i cap oRv od) (stepSignLike s₂ kind h i cap oRv od) := by
  unfold stepSignLike
  cases i with
  | none => exact tw_rOnly _
  | some n =>
    rw [hv.sess]
    cases s.handles.getSess h with
    | none => exact tw_rOnly _
    | some ss => tw_peel

theorem twin_finalLike (hv : Alike h s s₂) (kind : OpKind) (cap : Option Nat) (oRv : RV) (od : Option Bytes) :
    Twin h s s₂ (stepFinalLike s kind h cap oRv od) (stepFinalLike s₂ kind h cap oRv od) := by
  unfold stepFinalLike
  rw [hv.sess]
  cases s.handles.getSess h with
  | none => exact tw_rOnly _
  | some ss => tw_peel

theorem twin_verify (hv : Alike h s s₂) (single : Bool) (i sl : Option Nat) (oRv : RV) :
    Twin h s s₂ (stepVerify s single h i sl oRv) (stepVerify s₂ single h i sl oRv) := by
  unfold stepVerify
  cases i with
  | none => exact tw_rOnly _
  | some n =>
    cases sl with
    | none => exact tw_rOnly _
    | some l =>
      rw [hv.sess]
      cases s.handles.getSess h with
      | none => exact tw_rOnly _
      | some ss => tw_peel

theorem twin_crypt (hv : Alike h s s₂) (enc : Bool) (i cap : Option Nat) (oRv : RV) (ol : Nat) (od : Option Bytes) :
    Twin h s s₂ (stepCrypt s enc h i cap oRv ol od) (stepCrypt s₂ enc h i cap oRv ol od) := by
  unfold stepCrypt
  rw [hv.sess]
  cases s.handles.getSess h with
  | none => exact tw_rOnly _
  | some ss =>
    cases i with
    | none => exact tw_reset _ _
    | some n =>
      apply tw_ite (tw_rOnly _)
      cases ss.opd.sym with
      | some c => tw_peel
      | none => tw_peel

theorem twin_cryptUpdate (hv : Alike h s s₂) (enc : Bool) (i cap : Option Nat) (oRv : RV) (od : Option Bytes) :
    Twin h s s₂ (stepCryptUpdate s enc h i cap oRv od) (stepCryptUpdate s₂ enc h i cap oRv od) := by
  unfold stepCryptUpdate
  rw [hv.sess]
  cases s.handles.getSess h with
  | none => exact tw_rOnly _
  | some ss =>
    cases i with
    | none => exact tw_reset _ _
    | some n =>
      apply tw_ite (tw_rOnly _)
      cases ss.opd.sym with
      | some c => tw_peel
      | none => exact tw_rOnly _

theorem twin_cryptFinal (hv : Alike h s s₂) (enc : Bool) (cap : Option Nat) (oRv : RV) (ol : Nat) (od : Option Bytes) :
    Twin h s s₂ (stepCryptFinal s enc h cap oRv ol od) (stepCryptFinal s₂ enc h cap oRv ol od) := by
  unfold stepCryptFinal
  rw [hv.sess]
  cases s.handles.getSess h with
  | none => exact tw_rOnly _
  | some ss =>
    apply tw_ite (tw_rOnly _)
    cases ss.opd.sym with
    | some c => tw_peel
    | none => exact tw_rOnly _

theorem initGuards_alike (hv : Alike h s s₂) (kind : InitKind) (mech keyH : Nat) : initGuards s₂ kind h mech keyH = initGuards s kind h mech keyH := by
  unfold initGuards
  rw [hv.sess, hv.slots, hv.obj, hv.cfg]

theorem twin_opInit (hv : Alike h s s₂) (kind : InitKind) (mech : Nat) (p : MParam) (keyH : Nat) (oRv : RV) :
    Twin h s s₂ (stepOpInit s kind h mech p keyH oRv) (stepOpInit s₂ kind h mech p keyH oRv) := by
  unfold stepOpInit
  rw [initGuards_alike hv]
  cases initGuards s kind h mech keyH with
  | error rv => exact tw_rOnly _
  | ok r =>
    obtain ⟨ss, t, key⟩ := r
    cases kind with
    | encrypt | decrypt =>
      cases symMech mech with
      | some q => obtain ⟨kts, bs, mode, pad⟩ := q; tw_peel
      | none =>
        cases asymEncMech mech with
        | some akt => tw_peel
        | none => exact tw_rOnly _
    | sign | verify =>
      cases macMech mech with
      | some q => obtain ⟨kts, a, macLen⟩ := q; tw_peel
      | none =>
        cases asymSigMech mech with
        | some q => obtain ⟨akt, multi⟩ := q; tw_peel
        | none => exact tw_rOnly _

theorem twin_digestInit (hv : Alike h s s₂) (mech : Nat) (oRv : RV) : Twin h s s₂ (stepDigestInit s h mech oRv) (stepDigestInit s₂ h mech oRv) := by
  unfold stepDigestInit
  rw [hv.sess, hv.cfg]
  cases s.handles.getSess h with
  | none => exact tw_rOnly _
  | some ss =>
    apply tw_ite (tw_rOnly _)
    apply tw_ite (tw_rOnly _)
    cases digestMech mech with
    | none => exact tw_rOnly _
    | some len => tw_peel

theorem twin_digestKey (hv : Alike h s s₂) (keyH : Nat) (oRv : RV) : Twin h s s₂ (stepDigestKey s h keyH oRv) (stepDigestKey s₂ h keyH oRv) := by
  unfold stepDigestKey
  rw [hv.sess, hv.slots, hv.obj]
  cases s.handles.getSess h with
  | none => exact tw_rOnly _
  | some ss =>
    apply tw_ite (tw_rOnly _)
    cases findTok s.slots ss.slot with
    | none => exact tw_rOnly _
    | some t =>
      cases resolveObj s keyH with
      | none => exact tw_rOnly _
      | some r => obtain ⟨e, key⟩ := r; tw_peel

end

/-- the session a session-local call works in; `none` for the calls that touch shared tables (key generation, wrapping, derivation, configuration) -/
def OpCall.sess? : OpCall → Option Nat
  | .opInit _ h _ _ _ _ => some h
  | .digestInit h _ _ => some h
  | .crypt _ h _ _ _ => some h
  | .cryptUpdate _ h _ _ _ => some h
  | .cryptFinal _ h _ _ => some h
  | .sign h _ _ _ => some h
  | .digest h _ _ _ => some h
  | .update _ h _ _ => some h
  | .digestKey h _ _ => some h
  | .signFinal h _ _ => some h
  | .digestFinal h _ _ => some h
  | .verify h _ _ _ => some h
  | .verifyFinal h _ _ => some h
  | _ => none

theorem twin_stepOp {h : Nat} {s s₂ : State} (c : OpCall) (hc : c.sess? = some h) (hv : Alike h s s₂) : Twin h s s₂ (stepOp s c) (stepOp s₂ c) := by
  cases c <;> simp only [OpCall.sess?, Option.some.injEq, reduceCtorEq] at hc <;> subst hc <;> simp only [stepOp] <;> rw [hv.init] <;>
    apply tw_ite (tw_rOnly _)
  case opInit => exact twin_opInit hv ..
  case digestInit => exact twin_digestInit hv ..
  case crypt => exact twin_crypt hv ..
  case cryptUpdate => exact twin_cryptUpdate hv ..
  case cryptFinal => exact twin_cryptFinal hv ..
  case sign | digest => exact twin_signLike hv ..
  case update => exact twin_updateLike hv ..
  case digestKey => exact twin_digestKey hv ..
  case signFinal | digestFinal => exact twin_finalLike hv ..
  case verify | verifyFinal => exact twin_verify hv ..

theorem loc_stepOp (c : OpCall) (h : Nat) (hc : c.sess? = some h) (s : State) : Lc h s (stepOp s c) := (twin_stepOp c hc (.refl h s)).lc

/-! ### the output-length protocol: a query changes nothing -/

/-- of the result `a` of a call with output buffer `cap` (`none`: a NULL pointer) in state `s`: when it reports
    CKR_BUFFER_TOO_SMALL, or CKR_OK to a NULL pointer, the state is still `s` -/
def Quiet (s : State) (cap : Option Nat) (a : State × Resp) : Prop :=
  (a.2.rv = CKR.BUFFER_TOO_SMALL ∨ (cap = none ∧ a.2.rv = CKR.OK)) → a.1 = s

theorem quiet_same {s : State} {cap : Option Nat} {a : State × Resp} (h : a.1 = s) : Quiet s cap a := fun _ => h

theorem quiet_rv {s s' : State} {cap : Option Nat} {r : Resp} (hb : r.rv ≠ CKR.BUFFER_TOO_SMALL) (ho : cap = none → r.rv ≠ CKR.OK) :
    Quiet s cap (s', r) := by
  rintro (h | ⟨h1, h2⟩)
  · exact absurd h hb
  · exact absurd h2 (ho h1)

theorem quiet_err {s s' : State} {cap : Option Nat} {e : RV} (hb : e ≠ CKR.BUFFER_TOO_SMALL := by decide) (ho : e ≠ CKR.OK := by decide) :
    Quiet s cap (s', { rv := e }) := quiet_rv hb fun _ => ho

/-- behind `lenProto` the buffer is there and large enough -/
theorem quiet_lenProto {s : State} {h : Nat} {ss : Sess} {need : Nat} {cap : Option Nat} {p : State × Resp} (hp : cap ≠ none → Quiet s cap p) :
    Quiet s cap (lenProto s h ss need cap p) := by
  unfold lenProto
  cases cap with
  | none => exact quiet_same rfl
  | some c => exact ite_ind (fun _ => quiet_same rfl) fun _ => hp nofun

theorem quiet_ok {s s' : State} {cap : Option Nat} {r : Resp} (hr : r.rv = CKR.OK) (hc : cap ≠ none) : Quiet s cap (s', r) :=
  quiet_rv (by rw [hr]; decide) fun h => absurd h hc

/-- the primitive's own failure, taken from the observation, is CKR_GENERAL_ERROR -/
theorem quiet_observed {s s' : State} {cap : Option Nat} {oRv : RV} {b : State × Resp} (hb : Quiet s cap b) :
    Quiet s cap (if oRv == CKR.GENERAL_ERROR then (s', { rv := oRv }) else b) := by
  split
  · next h => rw [eq_of_beq h]; exact quiet_err
  · exact hb

macro "quiet_peel" : tactic =>
  `(tactic| repeat' (first
      | apply quiet_observed
      | (apply ite_ind <;> intro _)
      | (apply quiet_lenProto; intro _)
      | exact quiet_err
      | exact quiet_ok rfl ‹_›))

theorem quiet_cryptUpdate (s : State) (enc : Bool) (h n : Nat) (cap : Option Nat) (oRv : RV) (od : Option Bytes) :
    Quiet s cap (stepCryptUpdate s enc h (some n) cap oRv od) := by
  unfold stepCryptUpdate
  cases s.handles.getSess h with
  | none => exact quiet_same rfl
  | some ss =>
    refine ite_ind (fun _ => quiet_same rfl) fun _ => ?_
    cases ss.opd.sym with
    | none => exact quiet_same rfl
    | some c => cases enc <;> quiet_peel

theorem quiet_cryptFinal (s : State) (enc : Bool) (h : Nat) (cap : Option Nat) (oRv : RV) (ol : Nat) (od : Option Bytes) :
    Quiet s cap (stepCryptFinal s enc h cap oRv ol od) := by
  unfold stepCryptFinal
  cases s.handles.getSess h with
  | none => exact quiet_same rfl
  | some ss =>
    refine ite_ind (fun _ => quiet_same rfl) fun _ => ?_
    cases ss.opd.sym with
    | none => exact quiet_same rfl
    | some c => quiet_peel

theorem quiet_signLike (s : State) (kind : OpKind) (h n : Nat) (cap : Option Nat) (oRv : RV) (od : Option Bytes) :
    Quiet s cap (stepSignLike s kind h (some n) cap oRv od) := by
  unfold stepSignLike
  cases s.handles.getSess h with
  | none => exact quiet_same rfl
  | some ss => quiet_peel

theorem quiet_finalLike (s : State) (kind : OpKind) (h : Nat) (cap : Option Nat) (oRv : RV) (od : Option Bytes) :
    Quiet s cap (stepFinalLike s kind h cap oRv od) := by
  unfold stepFinalLike
  cases s.handles.getSess h with
  | none => exact quiet_same rfl
  | some ss => quiet_peel


/-- every field but the handle table is unchanged -/
def OnlyHandles (s s' : State) : Prop :=
  s'.objs = s.objs ∧ s'.nextOid = s.nextOid ∧ s'.slots = s.slots ∧ s'.initialised = s.initialised ∧ s'.counter = s.counter ∧ s'.mechCfg = s.mechCfg

theorem OnlyHandles.refl (s : State) : OnlyHandles s s := ⟨rfl, rfl, rfl, rfl, rfl, rfl⟩

theorem Lc.onlyHandles {h : Nat} {s : State} {a : State × Resp} (hl : Lc h s a) : OnlyHandles s a.1 := by
  rcases hl with e | ⟨y, e⟩ <;> rw [e]
  · exact OnlyHandles.refl s
  · exact ⟨rfl, rfl, rfl, rfl, rfl, rfl⟩

theorem onlyHandles_opInit (s : State) (k : InitKind) (h m : Nat) (p : MParam) (key : Nat) (o : RV) : OnlyHandles s (stepOpInit s k h m p key o).1 :=
  (twin_opInit (.refl h s) ..).lc.onlyHandles
theorem onlyHandles_digestInit (s : State) (h m : Nat) (o : RV) : OnlyHandles s (stepDigestInit s h m o).1 :=
  (twin_digestInit (.refl h s) ..).lc.onlyHandles

end Shm
