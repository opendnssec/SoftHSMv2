/-
  The calls of Ops.lean / Wrap.lean in the vocabulary of `Lemmas/Edits.lean` (`stepOp_creates`): objects that obey the encryption
  rule may be added, nothing else of objects and tokens changes, and a refused call adds none.
-/
import Shm.Lemmas.Edits
import Shm.Lemmas.Local
namespace Shm

theorem encOK_postGenerate {p : Bool} {a : Attrs} (h : EncOK p a) (mech : Nat) (sp : Bool) : EncOK p (postGenerate mech sp a) := by
  unfold postGenerate
  have h1 : EncOK p (setA (setA a CKA.LOCAL (.bool true)) CKA.KEY_GEN_MECHANISM (.ulong mech)) :=
    encOK_setA (encOK_setA h _ (.bool true) trivial) _ (.ulong mech) trivial
  split
  · exact encOK_setA (encOK_setA h1 _ (.bool _) trivial) _ (.bool _) trivial
  · exact h1

theorem encOK_markUnk {p : Bool} (tys : List Nat) : ∀ {a : Attrs}, EncOK p a → EncOK p (markUnk a tys) := by
  unfold markUnk
  induction tys with
  | nil => intro a h; exact h
  | cons t ts ih =>
    intro a h
    simp only [List.foldl_cons]
    apply ih
    split
    · exact encOK_setA h _ .unk trivial
    · exact h

/-- the attribute writes of the unwrap / derive tails keep the rule: booleans, unknowns, and a value flagged with the key's privacy -/
theorem encOK_tail {p : Bool} {a : Attrs} (h : EncOK p a) (v : AVal) (hv : valOK p v) (tys : List Nat) :
    EncOK p (markUnk (setA (setA (setA (setA a CKA.LOCAL (.bool false)) CKA.ALWAYS_SENSITIVE (.bool false)) CKA.NEVER_EXTRACTABLE (.bool false)) CKA.VALUE v) tys) :=
  encOK_markUnk _ (encOK_setA (encOK_setA (encOK_setA (encOK_setA h _ (.bool false) trivial) _ (.bool false) trivial) _ (.bool false) trivial) _ v hv)

theorem valOK_deriveValue (s : State) (mech : Nat) (p : MParam) (bk : Obj) (kt vl : Nat) (isPriv : Bool) : valOK isPriv (deriveValue s mech p bk kt vl isPriv) := by
  unfold deriveValue
  repeat' (first | trivial | exact Or.inr rfl | split | extract_lets)

theorem encOK_deriveFlags {p : Bool} {a : Attrs} (h : EncOK p a) (m : Nat) (ba : Attrs) (oa : Option Attrs) : EncOK p (deriveFlags m ba oa a) := by
  unfold deriveFlags
  split
  · split
    · exact encOK_markUnk _ h
    · dsimp only
      refine encOK_setA (encOK_setA ?_ _ (.bool _) trivial) _ (.bool _) trivial
      refine encOK_iteSet (encOK_iteSet h _ _ (.bool true) trivial) _ _ (.bool false) trivial
  · split
    · dsimp only
      refine encOK_setA (encOK_setA ?_ _ (.bool _) trivial) _ (.bool _) trivial
      refine encOK_iteSet (encOK_iteSet h _ _ (.bool true) trivial) _ _ (.bool false) trivial
    · exact encOK_setA (encOK_setA h _ (.bool _) trivial) _ (.bool _) trivial

/-- objects, allocation counter and slots unchanged (a handle value may have been used up), or exactly one object added -/
def Adds (s : State) (r : State × Resp) : Prop :=
  (r.1.objs = s.objs ∧ r.1.nextOid = s.nextOid ∧ r.1.slots = s.slots) ∨ ∃ slot h t p a, r.1 = (addObject s slot h t p a).1

theorem adds_same (s : State) (x : Resp) : Adds s (s, x) := Or.inl ⟨rfl, rfl, rfl⟩

namespace C13

def OkOrSame (s : State) (r : State × Resp) : Prop := r.2.rv = CKR.OK ∨ r.1.objs = s.objs

theorem oos_bump (s : State) (x : Resp) : OkOrSame s ({ s with counter := s.counter + 1 }, x) := Or.inr rfl

end C13

/-- of the result `r` of a call in state `s`: objects that obey the encryption rule may have been added (and handle numbers used up),
    none if the call was refused; no token record changed -/
structure Creates (s : State) (r : State × Resp) : Prop where
  objs : ObjsEdit EncOK none s r.1
  slots : r.1.slots = s.slots
  refused : C13.OkOrSame s r

theorem creates_same (s : State) (x : Resp) : Creates s (s, x) := ⟨.keep rfl rfl, rfl, Or.inr rfl⟩
theorem creates_rOnly (s : State) (rv : RV) : Creates s (rOnly s rv) := creates_same _ _
theorem creates_bump (s : State) (x : Resp) : Creates s ({ s with counter := s.counter + 1 }, x) := ⟨.keep rfl rfl, rfl, C13.oos_bump s x⟩
theorem creates_add (s : State) (slot h : Nat) (t p : Bool) (a : Attrs) (ns : List Nat) (hr : EncOK p a) :
    Creates s ((addObject s slot h t p a).1, { rv := CKR.OK, nums := ns }) := ⟨.add _ _ _ _ _ _ hr, rfl, Or.inl rfl⟩
theorem creates_genKeyFinish (s : State) (ss : Sess) (h mech : Nat) (tpl : Template) (t : Tok) (cls kt dkt : Nat) (a b : Bool) (kl : Nat) :
    Creates s (genKeyFinish s ss h mech tpl t cls kt dkt a b kl) := by
  unfold genKeyFinish
  split
  · exact creates_same _ _
  · extract_lets keyTpl
    cases hcd : findClass cls kt 0 with
    | none => exact creates_same _ _
    | some cd =>
      dsimp only
      cases hst : saveTemplate cd (initAttrs cd) (reorderTpl keyTpl) OP.GENERATE b t.soIn CKR.OK with
      | error e => exact creates_same _ _
      | ok attrs =>
        have h2 : EncOK b (setA (postGenerate mech true attrs) CKA.VALUE .unk) := encOK_setA (encOK_postGenerate (encOK_saved hcd hst) _ _) _ .unk trivial
        refine creates_add _ _ _ _ _ _ _ (encOK_setA ?_ _ (.ulong _) trivial)
        split
        · exact h2
        · exact encOK_setA h2 _ .unk trivial

theorem creates_genPairFinish (s : State) (ss : Sess) (h mech : Nat) (p v : Template) (t : Tok) (dkt : Nat) (a b c d : Bool) :
    Creates s (genPairFinish s ss h mech p v t dkt a b c d) := by
  unfold genPairFinish
  extract_lets skip pubTpl privTpl
  cases hc1 : findClass CKO.PUBLIC_KEY dkt 0 with
  | none => exact creates_same _ _
  | some cd1 =>
    cases hc2 : findClass CKO.PRIVATE_KEY dkt 0 with
    | none => exact creates_same _ _
    | some cd2 =>
      dsimp only
      cases hs1 : saveTemplate cd1 (initAttrs cd1) pubTpl OP.GENERATE b t.soIn CKR.OK with
      | error e => exact creates_same _ _
      | ok pa =>
        cases hs2 : saveTemplate cd2 (initAttrs cd2) privTpl OP.GENERATE d t.soIn CKR.OK with
        | error e => exact creates_bump _ _
        | ok va =>
          have hva := encOK_saved hc2 hs2
          -- the curve parameters copied from the public template are re-flagged with the private key's privacy
          have hva0 : EncOK d (match getA pa 0x180 with
              | some v => (if (getA va 0x180).isSome then setA va 0x180 (match v with | .bytes b _ => .bytes b d | x => x) else va)
              | none => va) := by
            split
            · next v _ =>
              split
              · refine encOK_setA hva _ _ ?_
                cases v <;> first | trivial | exact Or.inr rfl
              · exact hva
            · exact hva
          exact ⟨.trans (.add _ _ _ _ _ _ (encOK_markUnk _ (encOK_postGenerate (encOK_saved hc1 hs1) _ _)))
            (.add _ _ _ _ _ _ (encOK_setA (encOK_markUnk _ (encOK_postGenerate hva0 _ _)) _ (.ulong _) trivial)), rfl, Or.inl rfl⟩

theorem creates_unwrapFinish (s : State) (slot h cls kt : Nat) (a b c : Bool) (t : Template) (kd : Option (Except RV Bytes)) (rv : RV) :
    Creates s (unwrapFinish s slot h cls kt a b c t kd rv) := by
  unfold unwrapFinish
  cases hcd : findClass cls kt 0 with
  | none => exact creates_same _ _
  | some cd =>
    dsimp only
    cases hst : saveTemplate cd (initAttrs cd) (reorderTpl (keyTemplate cls kt a b t [])) OP.UNWRAP b c rv with
    | error e => exact creates_same _ _
    | ok attrs =>
      dsimp only
      have h1 := encOK_setA (encOK_setA (encOK_setA (encOK_saved hcd hst) CKA.LOCAL (.bool false) trivial) CKA.ALWAYS_SENSITIVE (.bool false) trivial)
        CKA.NEVER_EXTRACTABLE (.bool false) trivial
      split
      · refine creates_add _ _ _ _ _ _ _ (encOK_setA h1 _ _ ?_)
        split
        · exact Or.inr rfl
        · trivial
      · split
        · exact creates_same _ _
        · exact creates_add _ _ _ _ _ _ _ (encOK_markUnk _ h1)

theorem creates_deriveFinish (s : State) (slot h cls kt : Nat) (a b c : Bool) (t : Template) (v : AVal) (m : Nat) (ba : Attrs) (oa : Option Attrs)
    (hv : valOK b v) : Creates s (deriveFinish s slot h cls kt a b c t v m ba oa) := by
  unfold deriveFinish
  cases hcd : findClass cls kt 0 with
  | none => exact creates_same _ _
  | some cd =>
    dsimp only
    cases hst : saveTemplate cd (initAttrs cd) (reorderTpl (keyTemplate cls kt a b t [CKA.CHECK_VALUE])) OP.DERIVE b c CKR.OK with
    | error e => exact creates_same _ _
    | ok attrs =>
      exact creates_add _ _ _ _ _ _ _
        (encOK_markUnk _ (encOK_setA (encOK_deriveFlags (encOK_setA (encOK_saved hcd hst) CKA.LOCAL (.bool false) trivial) _ _ _) _ _ hv))

/-- walk down an unfolded step function whose leaves are refusals, `counter` bumps and its `*Finish` function (`fin`: the lemma for that) -/
macro "creates_peel" fin:term : tactic =>
  `(tactic| repeat' (first
      | exact creates_rOnly _ _
      | exact $fin
      | (apply ite_ind <;> intro _)
      | split
      | exact creates_bump _ _))

theorem creates_wrapOutput (s : State) (cap : Option Nat) (rv : RV) (l : Nat) (d : Option Bytes) (c : Option (Except RV Bytes)) :
    Creates s (wrapOutput s cap rv l d c) := by
  unfold wrapOutput; creates_peel (creates_same _ _)

theorem Lc.creates {h : Nat} {s : State} {a : State × Resp} (hl : Lc h s a) : Creates s a :=
  have oh := hl.onlyHandles
  ⟨.keep oh.1 oh.2.1, oh.2.2.1, Or.inr oh.1⟩

theorem creates_unwrap (s : State) (h m : Nat) (p : MParam) (uk : Nat) (b : Option Bytes) (t : Template) (rv : RV) : Creates s (stepUnwrap s h m p uk b t rv) := by
  unfold stepUnwrap; creates_peel (creates_unwrapFinish ..)

theorem creates_derive (s : State) (h m : Nat) (p : MParam) (bk : Nat) (t : Template) (rv : RV) : Creates s (stepDerive s h m p bk t rv) := by
  unfold stepDerive; creates_peel (creates_deriveFinish _ _ _ _ _ _ _ _ _ _ _ _ _ (valOK_deriveValue ..))

theorem stepOp_creates (s : State) (c : OpCall) : Creates s (stepOp s c) := by
  cases c
  case cfgMechs => exact ⟨.keep rfl rfl, rfl, Or.inr rfl⟩
  all_goals first | exact (loc_stepOp _ _ rfl s).creates | (simp only [stepOp]; refine ite_ind (fun _ => creates_rOnly _ _) fun _ => ?_)
  case mechList => split <;> exact creates_same _ _
  case genKey => unfold stepGenKey; creates_peel (creates_genKeyFinish ..)
  case genPair => unfold stepGenPair; creates_peel (creates_genPairFinish ..)
  case wrap => unfold stepWrap; creates_peel (creates_wrapOutput ..)
  case unwrap => exact creates_unwrap ..
  case derive => exact creates_derive ..

end Shm
