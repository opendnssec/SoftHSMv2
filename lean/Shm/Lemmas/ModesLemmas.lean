/-
  Structural facts about the block-cipher modes, for EVERY length-preserving block function with a left inverse (`BlockInv`):
  chunking into blocks, CBC decrypt∘encrypt (at block level for any block size, `cbc_blocks`), CTR and GCM, PKCS#7 unpad∘pad.
-/
import Shm.Crypto.More
import Shm.Lemmas.Lists
namespace Shm.Crypto

theorem xorBytes_length (a b : Bytes) : (xorBytes a b).length = min a.length b.length := by simp [xorBytes]

theorem xorBytes_cancel (a b : Bytes) (h : a.length ≤ b.length) : xorBytes (xorBytes a b) b = a := by
  apply List.ext_getElem
  · simp [xorBytes]; omega
  · intro i h1 h2; simp [xorBytes, UInt8.xor_assoc]

/-- a block function pair: `D` undoes `E` on 16-byte blocks, `E` keeps the block length -/
structure BlockInv (E D : Bytes → Bytes) : Prop where
  inv : ∀ b, b.length = 16 → D (E b) = b
  len : ∀ b, b.length = 16 → (E b).length = 16

/-! ### blocks: lists all of whose members have `n` elements -/

theorem flatten_chunks {α : Type} {n : Nat} (hn : n ≠ 0) (l : List α) : (chunks n l).flatten = l := by
  fun_induction chunks n l with
  | case1 l h0 => simp_all
  | case2 l h0 ih => simp [ih]

theorem chunks_all_len {α : Type} {n : Nat} (l : List α) (h : l.length % n = 0) : ∀ c ∈ chunks n l, c.length = n := by
  fun_induction chunks n l with
  | case1 l h0 => simp
  | case2 l h0 ih =>
    have hpos : l.length ≠ 0 := by intro e; simp_all
    have hge : n ≤ l.length := Nat.le_of_dvd (by omega) (Nat.dvd_of_mod_eq_zero h)
    intro c hc
    rcases List.mem_cons.mp hc with rfl | hc
    · simp [hge]
    · exact ih (by rw [List.length_drop]; exact Nat.sub_mod_eq_zero_of_mod_eq (by simp [h])) c hc

theorem chunks_flatten {α : Type} {n : Nat} (hn : n ≠ 0) (bs : List (List α)) (h : ∀ b ∈ bs, b.length = n) : chunks n bs.flatten = bs := by
  induction bs with
  | nil => simp [chunks]
  | cons b rest ih =>
    have hb : b.length = n := h b (by simp)
    have hne : b ≠ [] := by intro e; simp [e] at hb; omega
    rw [chunks]
    simp [hn, hne, List.take_left' hb, List.drop_left' hb, ih (fun c hc => h c (by simp [hc]))]

/-- CBC at block level, in one induction and for any block size: decryption undoes encryption, and the ciphertext is as many blocks of the same size -/
theorem cbc_blocks {E D : Bytes → Bytes} {n : Nat} (hinv : ∀ b, b.length = n → D (E b) = b) (hlen : ∀ b, b.length = n → (E b).length = n)
    (ps : List Bytes) (iv : Bytes) (hiv : iv.length = n) (hp : ∀ p ∈ ps, p.length = n) :
    cbcDecBlocks D iv (cbcEncBlocks E iv ps) = ps ∧ (cbcEncBlocks E iv ps).length = ps.length ∧ ∀ c ∈ cbcEncBlocks E iv ps, c.length = n := by
  induction ps generalizing iv with
  | nil => simp [cbcEncBlocks, cbcDecBlocks]
  | cons p rest ih =>
    have hpl : p.length = n := hp p (by simp)
    have hx : (xorBytes p iv).length = n := by rw [xorBytes_length]; omega
    obtain ⟨i1, i2, i3⟩ := ih (E (xorBytes p iv)) (hlen _ hx) (fun q hq => hp q (by simp [hq]))
    simp [cbcEncBlocks, cbcDecBlocks, hinv _ hx, xorBytes_cancel p iv (by omega), i1, i2, hlen _ hx]
    exact i3

theorem cbc_roundtrip {E D : Bytes → Bytes} (h : BlockInv E D) (iv m : Bytes) (hiv : iv.length = 16) (hm : m.length % 16 = 0) :
    cbcDecrypt D iv (cbcEncrypt E iv m) = m := by
  obtain ⟨hinv, -, hlen⟩ := cbc_blocks h.inv h.len _ iv hiv (chunks_all_len m hm)
  rw [cbcDecrypt, cbcEncrypt, chunks_flatten (by decide) _ hlen, hinv, flatten_chunks (by decide)]

theorem cbcEncrypt_length {E D : Bytes → Bytes} (h : BlockInv E D) (iv m : Bytes) (hiv : iv.length = 16) (hm : m.length % 16 = 0) :
    (cbcEncrypt E iv m).length = m.length := by
  have hall := chunks_all_len m hm
  obtain ⟨-, hn, hlen⟩ := cbc_blocks h.inv h.len _ iv hiv hall
  rw [cbcEncrypt, length_flatten_const _ hlen, hn, ← length_flatten_const _ hall, flatten_chunks (by decide)]

theorem ctrInc_length (bits : Nat) (cb : Bytes) : (ctrInc bits cb).length = 16 := by simp [ctrInc, natToBytes]

theorem gcmJ0_length (h : Nat) (iv : Bytes) : (gcmJ0 h iv).length = 16 := by
  unfold gcmJ0
  split
  · next h12 => simp at h12; simp [h12]
  · simp [natToBytes]

theorem ctrStream_length {E : Bytes → Bytes} (hE : ∀ b, b.length = 16 → (E b).length = 16) (bits : Nat) (n : Nat) (cb : Bytes) (hcb : cb.length = 16) :
    (ctrStream E bits n cb).flatten.length = 16 * n := by
  induction n generalizing cb with
  | zero => rfl
  | succ n ih => simp [ctrStream, hE cb hcb, ih _ (ctrInc_length bits cb)]; omega

theorem ctr_involution {E : Bytes → Bytes} (hE : ∀ b, b.length = 16 → (E b).length = 16) (bits : Nat) (cb m : Bytes) (hcb : cb.length = 16) :
    ctrCrypt E bits cb (ctrCrypt E bits cb m) = m := by
  have hs := ctrStream_length hE bits ((m.length + 15) / 16) cb hcb
  have hlen : (ctrCrypt E bits cb m).length = m.length := by rw [ctrCrypt, xorBytes_length, hs]; omega
  rw [ctrCrypt, hlen]
  exact xorBytes_cancel m _ (by rw [hs]; omega)

theorem gcm_roundtrip {E : Bytes → Bytes} (hE : ∀ b, b.length = 16 → (E b).length = 16) (iv aad pt : Bytes) (tagLen : Nat) (ht : tagLen ≤ 16) :
    gcmDecrypt E iv aad ((gcmEncrypt E iv aad pt).1 ++ (gcmEncrypt E iv aad pt).2.take tagLen) tagLen = some pt := by
  generalize hr : gcmEncrypt E iv aad pt = r
  have htag : r.2.length = 16 := by subst hr; simp [gcmEncrypt, xorBytes_length, hE _ (gcmJ0_length _ _), natToBytes]
  have htl : (r.2.take tagLen).length = tagLen := by rw [List.length_take, htag]; omega
  have hsplit : (r.1 ++ r.2.take tagLen).length - tagLen = r.1.length := by rw [List.length_append, htl]; omega
  rw [gcmDecrypt, if_neg (by rw [List.length_append, htl]; omega), hsplit, List.take_left' rfl, List.drop_left' rfl]
  -- the tag is recomputed from the same ciphertext; the plaintext is CTR applied twice
  have h1 : r.1 = ctrCrypt E 32 (ctrInc 32 (gcmJ0 (bytesToNat (E (List.replicate 16 0))) iv)) pt := by subst hr; rfl
  have h2 : xorBytes (natToBytes (ghash (bytesToNat (E (List.replicate 16 0))) (pad16 aad ++ pad16 r.1 ++ natToBytes (aad.length * 8) 8 ++ natToBytes (r.1.length * 8) 8)) 16)
      (E (gcmJ0 (bytesToNat (E (List.replicate 16 0))) iv)) = r.2 := by subst hr; rfl
  simp only [h2, beq_self_eq_true, if_true]
  rw [h1, ctr_involution hE 32 _ pt (ctrInc_length _ _)]

theorem pkcs7Pad_length (bs : Nat) (m : Bytes) (hbs : 0 < bs) : (pkcs7Pad bs m).length % bs = 0 := by
  simp only [pkcs7Pad, List.length_append, List.length_replicate]
  have := Nat.mod_lt m.length hbs
  have h2 : m.length + (bs - m.length % bs) = (m.length / bs + 1) * bs := by
    have := Nat.div_add_mod m.length bs
    rw [Nat.add_mul, Nat.one_mul]
    rw [Nat.mul_comm] at this
    omega
  rw [h2]; simp

/-- a message followed by `n` bytes of value `n`, for ANY admissible count `1 ≤ n ≤ bs` (not only the one `pkcs7Pad` chooses), unpads to the message -/
theorem pkcs7Unpad_append (bs n : Nat) (m : Bytes) (h0 : 0 < n) (hb : n ≤ bs) (h1 : n < 256) :
    pkcs7Unpad bs (m ++ List.replicate n (UInt8.ofNat n)) = some m := by
  have hn : (UInt8.ofNat n).toNat = n := by rw [UInt8.toNat_ofNat']; omega
  have hlast : (m ++ List.replicate n (UInt8.ofNat n)).getLast? = some (UInt8.ofNat n) := by
    rw [List.getLast?_append, List.getLast?_replicate]; simp; omega
  have c1 : (n == 0 || decide (n > bs) || decide (n > m.length + n)) = false := by simp; omega
  simp only [pkcs7Unpad, hlast, hn, List.length_append, List.length_replicate, c1, Bool.false_eq_true, if_false, Nat.add_sub_cancel,
    List.drop_left, List.take_left]
  simp

theorem pkcs7_roundtrip (bs : Nat) (m : Bytes) (h0 : 0 < bs) (h1 : bs < 256) : pkcs7Unpad bs (pkcs7Pad bs m) = some m := by
  have := Nat.mod_lt m.length h0
  exact pkcs7Unpad_append bs _ m (by omega) (by omega) (by omega)

/-- **what `pkcs7Unpad` accepts** is its result followed by `c` bytes of value `c`, `1 ≤ c ≤ bs`: nothing else -/
theorem pkcs7Unpad_sound (bs : Nat) (m k : Bytes) (h : pkcs7Unpad bs m = some k) :
    ∃ c : UInt8, 1 ≤ c.toNat ∧ c.toNat ≤ bs ∧ c.toNat ≤ m.length ∧ m = k ++ List.replicate c.toNat c := by
  unfold pkcs7Unpad at h
  split at h
  · cases h
  next b _ =>
    dsimp only at h
    split at h
    · cases h
    next hc =>
      split at h
      next hall =>
        simp only [Bool.or_eq_true, beq_iff_eq, decide_eq_true_eq, not_or, Nat.not_lt] at hc
        refine ⟨b, by omega, hc.1.2, hc.2, ?_⟩
        have hrep : m.drop (m.length - b.toNat) = List.replicate b.toNat b := by
          rw [List.eq_replicate_iff]
          exact ⟨by simp; omega, fun x hx => by simpa using List.all_eq_true.mp hall x hx⟩
        rw [← Option.some.inj h, ← hrep, List.take_append_drop]
      · cases h

theorem cbc_pad_roundtrip {E D : Bytes → Bytes} (h : BlockInv E D) (iv m : Bytes) (hiv : iv.length = 16) :
    pkcs7Unpad 16 (cbcDecrypt D iv (cbcEncrypt E iv (pkcs7Pad 16 m))) = some m := by
  rw [cbc_roundtrip h iv _ hiv (pkcs7Pad_length 16 m (by decide)), pkcs7_roundtrip 16 m (by decide) (by decide)]

end Shm.Crypto
