/-
  A sound abstract interpreter for the translated attribute-update programs: it follows what is known about ONE
  boolean attribute (the "target") along every path of a program, so that statements of the form
      "no successful C_SetAttributeValue / C_CopyObject template entry can switch CKA_SENSITIVE off"
  become `decide`-able facts about the GENERATED programs, lifted to all inputs by the soundness theorem `safe_sound`.
-/
import Shm.Lemmas.ProgAll
namespace Shm

/-- the target attribute is present as a boolean with value `tv` -/
def Knows (o : Attrs) (T : Nat) (tv : Bool) : Prop := getA o T = some (.bool tv)

instance (o : Attrs) (T : Nat) (tv : Bool) : Decidable (Knows o T tv) := by unfold Knows; infer_instance

theorem Knows.getBoolD {o : Attrs} {T : Nat} {tv : Bool} (h : Knows o T tv) (d : Bool) : getBoolD o T d = tv := by
  unfold Shm.getBoolD; rw [h]

theorem Knows.setA_other {o : Attrs} {T : Nat} {tv : Bool} (h : Knows o T tv) (t : Nat) (v : AVal) (hne : T ≠ t) :
    Knows (setA o t v) T tv := by
  unfold Knows; rw [getA_setA_other o t T v hne]; exact h

theorem Knows.setA_same (o : Attrs) (T : Nat) (v : Bool) : Knows (setA o T (.bool v)) T v := getA_setA_same o T _

/-- what is known of the environment of an update; `none` = not known -/
structure AbsCtx where
  op : Option Nat := none
  soIn : Option Bool := none
  isPrivate : Option Bool := none
  selfTy : Nat
  target : Nat
  deriving Repr

def Cons (c : AbsCtx) (e : UEnv) : Prop :=
  e.selfTy = c.selfTy ∧ (∀ n, c.op = some n → e.op = n) ∧ (∀ b, c.soIn = some b → e.soIn = b) ∧
  (∀ b, c.isPrivate = some b → e.isPrivate = b)

def or3 : Option Bool → Option Bool → Option Bool
  | some true, _ | _, some true => some true
  | some false, some false => some false
  | _, _ => none

def and3 : Option Bool → Option Bool → Option Bool
  | some false, _ | _, some false => some false
  | some true, some true => some true
  | _, _ => none

/-- three-valued evaluation of a condition: `none` = unknown -/
def absCond (c : AbsCtx) (tv : Bool) : UCond → Option Bool
  | .f => some false
  | .objBool a _ => if a = c.target then some tv else none
  | .opIs op => c.op.map (· == op)
  | .soLoggedIn => c.soIn
  | .isPrivate => c.isPrivate
  | .not a => (absCond c tv a).map (!·)
  | .or a b => or3 (absCond c tv a) (absCond c tv b)
  | .and a b => and3 (absCond c tv a) (absCond c tv b)
  | _ => none

theorem or3_sound {x y : Option Bool} {a b r : Bool} (hx : ∀ v, x = some v → a = v) (hy : ∀ v, y = some v → b = v)
    (h : or3 x y = some r) : (a || b) = r := by
  rcases x with _ | _ | _ <;> rcases y with _ | _ | _ <;> simp_all [or3]

theorem and3_sound {x y : Option Bool} {a b r : Bool} (hx : ∀ v, x = some v → a = v) (hy : ∀ v, y = some v → b = v)
    (h : and3 x y = some r) : (a && b) = r := by
  rcases x with _ | _ | _ <;> rcases y with _ | _ | _ <;> simp_all [and3]

theorem absCond_sound {c : AbsCtx} {e : UEnv} (hc : Cons c e) {o : Attrs} {tv : Bool} (hk : Knows o c.target tv) :
    ∀ (cnd : UCond) (b : Bool), absCond c tv cnd = some b → evalCond e o cnd = b := by
  intro cnd
  induction cnd with
  | f => intro b h; cases h; rfl
  | objBool a d =>
    intro b h
    simp only [absCond] at h
    split at h
    · rename_i ha; cases h; subst ha; exact hk.getBoolD d
    · cases h
  | opIs op =>
    intro b h
    obtain ⟨n, hn, rfl⟩ := Option.map_eq_some_iff.mp h
    simp [evalCond, hc.2.1 n hn]
  | soLoggedIn => exact fun b h => hc.2.2.1 b h
  | isPrivate => exact fun b h => hc.2.2.2 b h
  | not a ih =>
    intro b h
    obtain ⟨x, hx, rfl⟩ := Option.map_eq_some_iff.mp h
    simp [evalCond, ih x hx]
  | or a b iha ihb => exact fun r h => or3_sound (iha ·) (ihb ·) h
  | and a b iha ihb => exact fun r h => and3_sound (iha ·) (ihb ·) h
  | _ => intro b h; cases h

/-- the target after an action; `none`: overwritten by something that is no boolean -/
def absAct (c : AbsCtx) (tv : Bool) (a : UAct) : Option Bool :=
  if actTy c.selfTy a = c.target then (match a with | .setBool _ v => some v | _ => none) else some tv

theorem absAct_sound {c : AbsCtx} {e : UEnv} (hc : Cons c e) {o : Attrs} {tv tv' : Bool} (hk : Knows o c.target tv) {a : UAct}
    (h : absAct c tv a = some tv') : Knows (doAct e o a) c.target tv' := by
  unfold Knows at *
  rw [doAct_eq, getA_setA, hc.1]
  unfold absAct at h
  split at h
  · rename_i heq
    rw [if_pos heq.symm]
    cases a <;> cases h <;> rfl
  · rename_i hne
    cases h
    rw [if_neg (fun hh => hne hh.symm), hk]

inductive RKind
  | done (rv : Nat)
  | call
  | base
  | fell
  deriving DecidableEq, Repr

def URes.attrs : URes → Attrs
  | .done _ o | .call o | .base o | .fell o => o

def URes.rkind : URes → RKind
  | .done rv _ => .done rv
  | .call _ => .call
  | .base _ => .base
  | .fell _ => .fell

/-- the postcondition of a branch that is followed by `k`: falling through continues with `cont` -/
def seqPost (post : RKind → Bool → Bool) (cont : Bool → Bool) : RKind → Bool → Bool
  | .fell, tv => cont tv
  | kd, tv => post kd tv

/-- started with the target known to be `tv`, every path the abstract conditions allow ends in a result `post` accepts.
    Continuation style: the programs are small, and `P11Attribute::update`, the long one, is never interpreted
    (`updateAttribute_ok`). -/
def safe (c : AbsCtx) (post : RKind → Bool → Bool) : UProg → Bool → Bool
  | .ret rv, tv => post (.done rv) tv
  | .callUpdateAttr, tv => post .call tv
  | .callBase, tv => post .base tv
  | .fall, tv => post .fell tv
  | .act a k, tv => match absAct c tv a with | some tv' => safe c post k tv' | none => false
  | .ite cnd t e k, tv =>
    let post' := seqPost post (safe c post k)
    match absCond c tv cnd with
    | some true => safe c post' t tv
    | some false => safe c post' e tv
    | none => safe c post' t tv && safe c post' e tv

/-- soundness: the concrete run ends with the target known and in a result `post` accepts -/
theorem safe_sound {c : AbsCtx} {e : UEnv} (hc : Cons c e) :
    ∀ (p : UProg) (post : RKind → Bool → Bool) (tv : Bool) (o : Attrs), Knows o c.target tv → safe c post p tv = true →
      ∃ tv', Knows (runProg e p o).attrs c.target tv' ∧ post (runProg e p o).rkind tv' = true := by
  intro p
  induction p with
  | ret rv => exact fun post tv o hk h => ⟨tv, hk, h⟩
  | callUpdateAttr => exact fun post tv o hk h => ⟨tv, hk, h⟩
  | callBase => exact fun post tv o hk h => ⟨tv, hk, h⟩
  | fall => exact fun post tv o hk h => ⟨tv, hk, h⟩
  | act a k ih =>
    intro post tv o hk h
    simp only [safe] at h
    split at h
    · rename_i tv' ha; exact ih post _ _ (absAct_sound hc hk ha) h
    · cases h
  | ite cnd t el k iht ihe ihk =>
    intro post tv o hk h
    simp only [safe] at h
    -- the branch taken ends in a result the extended postcondition accepts
    have hb : ∃ tv', Knows (if evalCond e o cnd then runProg e t o else runProg e el o).attrs c.target tv' ∧
        seqPost post (safe c post k) (if evalCond e o cnd then runProg e t o else runProg e el o).rkind tv' = true := by
      cases hac : absCond c tv cnd with
      | none =>
        rw [hac] at h; simp only [Bool.and_eq_true] at h
        split
        · exact iht _ tv o hk h.1
        · exact ihe _ tv o hk h.2
      | some b =>
        rw [hac] at h
        rw [absCond_sound hc hk cnd b hac]
        cases b
        · exact ihe _ tv o hk h
        · exact iht _ tv o hk h
    simp only [runProg]
    generalize (if evalCond e o cnd then runProg e t o else runProg e el o) = r at hb
    obtain ⟨tv', hk', hp⟩ := hb
    cases r with
    | fell o' => exact ihk post tv' o' hk' hp
    | _ => exact ⟨tv', hk', hp⟩

end Shm
