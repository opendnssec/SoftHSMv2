/-
  Equations for the attribute engine of Model/AttrIR.lean and Model/Objects.lean: what `setA` does to a lookup, what one action
  and one `updateAttr` program are, where a descriptor comes from, what `saveTemplate` commits.
-/
import Shm.Model.Objects
namespace Shm

theorem getA_cons (k : Nat) (b : AVal) (o : Attrs) (a : Nat) : getA ((k, b) :: o) a = if a = k then some b else getA o a := by
  have : (a == k) = decide (a = k) := rfl
  by_cases h : a = k <;> simp [getA, List.lookup_cons, this, h]

theorem getA_setA (o : Attrs) (t t' : Nat) (v : AVal) :
    getA (setA o t v) t' = if t' = t then some v else getA o t' := by
  induction o with
  | nil => simp [setA, getA_cons]
  | cons x xs ih =>
    obtain ⟨k, b⟩ := x
    simp only [setA]
    split <;> split <;> simp_all [getA_cons]
    split <;> split <;> simp_all

theorem getA_setA_same (o : Attrs) (t : Nat) (v : AVal) : getA (setA o t v) t = some v := by
  rw [getA_setA, if_pos rfl]

theorem getA_setA_other (o : Attrs) (t t' : Nat) (v : AVal) (hne : t' ≠ t) : getA (setA o t v) t' = getA o t' := by
  rw [getA_setA, if_neg hne]

theorem getA_ite (c : Prop) [Decidable c] (x y : Attrs) (t : Nat) : getA (if c then x else y) t = if c then getA x t else getA y t := by
  split <;> rfl

theorem getBoolD_setA (o : Attrs) (t t' : Nat) (v : AVal) (d : Bool) :
    getBoolD (setA o t v) t' d = if t' = t then (match v with | .bool b => b | _ => d) else getBoolD o t' d := by
  unfold getBoolD
  rw [getA_setA]
  by_cases h : t' = t <;> simp only [h, if_true, if_false]
  cases v <;> rfl

theorem getBoolD_ite (c : Prop) [Decidable c] (x y : Attrs) (t : Nat) (d : Bool) :
    getBoolD (if c then x else y) t d = if c then getBoolD x t d else getBoolD y t d := by
  split <;> rfl

theorem mem_setA {o : Attrs} {ty : Nat} {v : AVal} {e : Nat × AVal} (h : e ∈ setA o ty v) : e = (ty, v) ∨ e ∈ o := by
  induction o with
  | nil => exact Or.inl (List.mem_singleton.mp h)
  | cons x xs ih =>
    obtain ⟨t, xv⟩ := x
    simp only [setA] at h
    split at h
    · rename_i ht
      rcases List.mem_cons.mp h with h | h
      · exact Or.inl (by rw [h, beq_iff_eq.mp ht])
      · exact Or.inr (List.mem_cons_of_mem _ h)
    · split at h
      · exact (List.mem_cons.mp h).imp_right id
      · rcases List.mem_cons.mp h with h | h
        · exact Or.inr (h ▸ List.mem_cons_self)
        · exact (ih h).imp_right (List.mem_cons_of_mem _)

/-! ### every action is one `setA` -/

def actTy (self : Nat) : UAct → Nat
  | .setBool (some a) _ => a
  | _ => self

def actVal (e : UEnv) : UAct → AVal
  | .setBool _ v => .bool v
  | .setULongVal => .ulong (leToNat (e.bytes.take 8))
  | .setBytesPlain => .bytes e.bytes false

theorem doAct_eq (e : UEnv) (o : Attrs) (a : UAct) : doAct e o a = setA o (actTy e.selfTy a) (actVal e a) := by
  cases a with
  | setBool x v => cases x <;> rfl
  | _ => rfl

theorem runUpdateAttr_prog (p : UProg) (e : UEnv) (n : Option (List (Nat × Option Bytes × Nat))) (o : Attrs) (oRv : RV) :
    runUpdateAttr (.prog p) e n o oRv =
      match runProg e p o with
      | .done rv o' => (rv, o')
      | .base o' => (CKR.OK, setA o' e.selfTy (.bytes e.bytes e.isPrivate))
      | _ => (CKR.GENERAL_ERROR, o) := rfl

theorem descOf_some {cd : ClassDesc} {ty : Nat} {d : AttrDesc} (h : descOf cd ty = some d) : d ∈ cd.attrs ∧ d.ty = ty :=
  ⟨List.mem_of_find?_eq_some h, by simpa using List.find?_some h⟩

/-- `saveTemplate` commits exactly what the loop over the entries made, and only when the loop reported no error -/
theorem saveTemplate_ok {cd : ClassDesc} {o o' : Attrs} {tpl : Template} {op : Nat} {p so : Bool} {oRv : RV}
    (h : saveTemplate cd o tpl op p so oRv = .ok o') : applyEntries cd op p so oRv tpl o = (CKR.OK, o') := by
  unfold saveTemplate at h
  repeat' split at h
  all_goals cases h
  rename_i hrv _ heq
  rw [heq]; simpa using hrv

end Shm
