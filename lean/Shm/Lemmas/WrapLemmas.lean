/-
  Lemmas about the wrapping / unwrapping switch of the state model (Shm/Model/Wrap.lean).
-/
import Shm.Model.Wrap
import Shm.Lemmas.KeyWrapLemmas
namespace Shm
open Shm.Crypto

/-- **a wrapped key of fewer than 16 bytes is refused by every symmetric unwrapping mechanism**, whatever the key and the parameter: both
    key-wrap formats need more, and CBC takes whole non-empty blocks only -/
theorem unwrapSym_short (mech : Nat) (p : MParam) (kek blob : Bytes) (h : blob.length < 16) : ∃ rv, unwrapSym mech p kek blob = .error rv := by
  have hc : (blob.isEmpty || blob.length % 16 != 0) = true := by
    cases blob with
    | nil => rfl
    | cons x xs => simp only [List.isEmpty_cons, Bool.false_or, bne_iff_ne, List.length_cons] at h ⊢; omega
  simp only [unwrapSym, rfc3394Unwrap_short _ _ (Nat.lt_trans h (by decide)), rfc5649Unwrap_short _ _ h, hc, if_true]
  repeat' split
  all_goals exact ⟨_, rfl⟩

end Shm
