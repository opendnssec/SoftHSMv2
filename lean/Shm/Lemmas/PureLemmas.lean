/-
  Lemmas about the pure helpers of Shm/Pure that the theorems of Shm/Props/C05, C13, C17 rest on: the number of length bytes of a DER header
  (`sigBytes`) and its long form, `ByteString::bits`, `RFC5652Unpad` against the model's unpadding, the XOR operators of `ByteString`.
-/
import Shm.Lemmas.BigEndian
import Shm.Lemmas.ModesLemmas
namespace Shm.Pure
open Shm.Store Shm.Crypto

/-- the one arithmetic fact behind `sigBytes`: a number below `a * 256` whose digit at `a` is zero is below `a` -/
theorem lt_of_top_digit_zero {x a : Nat} (h : x < a * 256) (hz : x / a % 256 = 0) : x < a := by
  have ha : 0 < a := Nat.pos_of_ne_zero (by rintro rfl; simp at h)
  have : x / a < 256 := (Nat.div_lt_iff_lt_mul ha).mpr (by rwa [Nat.mul_comm] at h)
  rw [Nat.mod_eq_of_lt this] at hz
  exact (Nat.div_eq_zero_iff_lt ha).mp hz

/-- the loop of `DERUTIL::raw2Octet` (`for (bytes = 8; bytes > 0; bytes--) if ((len >> ((bytes - 1) * 8)) & 0xFF) break;`) that `sigBytes`
    writes out for 8 bytes: here for any number of bytes, so that its specification is an induction -/
def sigLoop : Nat → Nat → Nat
  | 0, _ => 0
  | k + 1, len => if len / 256 ^ k % 256 ≠ 0 then k + 1 else sigLoop k len

theorem sigBytes_eq_loop (len : Nat) : sigBytes len = sigLoop 8 len := by
  simp [sigBytes, sigLoop]

theorem sigLoop_spec (k len : Nat) (h0 : 0 < len) (h : len < 256 ^ k) :
    1 ≤ sigLoop k len ∧ sigLoop k len ≤ k ∧ len < 256 ^ sigLoop k len := by
  induction k with
  | zero => omega
  | succ k ih =>
    unfold sigLoop
    split
    · exact ⟨by omega, by omega, h⟩
    next hz =>
      have := ih (lt_of_top_digit_zero h (Decidable.not_not.mp hz))
      omega

theorem sigBytes_spec (len : Nat) (h0 : 0 < len) (h : len < 2 ^ 64) :
    1 ≤ sigBytes len ∧ sigBytes len ≤ 8 ∧ len < 256 ^ sigBytes len := by
  rw [sigBytes_eq_loop]; exact sigLoop_spec 8 len h0 h

theorem beVal_dropZeros (b : Bytes) : beVal (b.dropWhile (· == 0)) = beVal b := by
  induction b with
  | nil => rfl
  | cons x r ih =>
    by_cases hx : x = 0
    · subst hx; simp [List.dropWhile, ih, beVal_cons]
    · have : (x == 0) = false := by simpa using hx
      simp [List.dropWhile, this]

theorem byteBits_spec (x : UInt8) (hx : x ≠ 0) : 2 ^ (byteBits x - 1) ≤ x.toNat ∧ x.toNat < 2 ^ byteBits x := by
  have h0 : x.toNat ≠ 0 := by intro h; apply hx; exact UInt8.toNat_inj.mp (by simpa using h)
  have hb : (x == 0) = false := by simpa using hx
  simp only [byteBits, hb, Bool.false_eq_true, if_false, Nat.add_sub_cancel]
  exact ⟨Nat.log2_self_le h0, Nat.lt_log2_self⟩


theorem longVal_beBytes (k n : Nat) (hk : k ≤ 8) : longVal (beBytes k n) = n % 256 ^ k := by
  unfold longVal
  rw [List.take_of_length_le (by rw [beBytes_length]; exact hk), beVal_beBytes]

/-- the second byte of a long-form header, `0x80 | k`: not a short-form length, and its low seven bits are `k` (`0x80 ||| k = 128 + k`) -/
theorem lenByte (k : Nat) (h : k < 128) :
    ¬ UInt8.ofNat (0x80 ||| k) < 0x80 ∧ (UInt8.ofNat (0x80 ||| k) &&& 0x7f).toNat = k := by
  have e : 0x80 ||| k = 128 + k := by simpa using (Nat.two_pow_add_eq_or_of_lt (i := 7) h 1).symm
  rw [e, UInt8.lt_iff_toNat_lt, UInt8.toNat_and, UInt8.toNat_ofNat']
  have : (128 + k) % 2 ^ 8 = 128 + k := Nat.mod_eq_of_lt (by omega)
  rw [this]
  refine ⟨by simp, ?_⟩
  show (128 + k) &&& (2 ^ 7 - 1) = k
  rw [Nat.and_two_pow_sub_one_eq_mod]; omega

/-- `DERUTIL::octet2Raw` on a long-form header, whoever wrote it: ANY `k` length bytes that spell the length of what follows are accepted
    (the number of length bytes need not be minimal) -/
theorem octet2Raw_long (k : Nat) (hdr b : Bytes) (hk : k < 128) (hl : hdr.length = k) (h0 : 0 < b.length) (hv : longVal hdr = b.length) :
    octet2Raw (0x04 :: UInt8.ofNat (0x80 ||| k) :: (hdr ++ b)) = b := by
  obtain ⟨h1, h2⟩ := lenByte k hk
  have hc : ¬ 2 + k ≥ k + b.length + 1 + 1 := by omega
  have e : k + b.length + 1 + 1 - (2 + k) = b.length := by omega
  simp only [octet2Raw, h1, h2, bne_self_eq_false, Bool.false_eq_true, if_false, List.drop_succ_cons, List.drop_zero,
    List.length_cons, List.length_append, hl, List.take_left' hl, hv, hc, e]
  rw [Nat.add_comm 2 k]
  exact List.drop_left' hl

theorem unpad5652_eq_model (p : Bytes) (bs : Nat) (hm : p.length % bs = 0) (hne : p ≠ []) :
    rfc5652Unpad p bs = pkcs7Unpad bs p := by
  obtain ⟨x, hx⟩ : ∃ x, p.getLast? = some x := ⟨_, List.getLast?_eq_some_getLast hne⟩
  have hl : p.length ≠ 0 := by simpa using hne
  have hbs : bs ≤ p.length := Nat.le_of_dvd (Nat.pos_of_ne_zero hl) (Nat.dvd_of_mod_eq_zero hm)
  -- the two differ in one test: the model also asks for `x ≤ p.length`, which follows from `x ≤ bs` here
  have e : (x == 0 || decide (x.toNat > bs)) = (x.toNat == 0 || decide (x.toNat > bs) || decide (x.toNat > p.length)) := by
    have : (x == 0) = (x.toNat == 0) := by rw [Bool.eq_iff_iff]; simp [← UInt8.toNat_inj]
    rw [this]; by_cases hb : x.toNat > bs <;> simp [hb]; omega
  simp [rfc5652Unpad, pkcs7Unpad, hx, hl, hm, e]

theorem xorMin_involution (a b : Bytes) (h : a.length = b.length) : xorMin (xorMin a b) b = a :=
  xorBytes_cancel a b (Nat.le_of_eq h)      -- `xorMin` is the `xorBytes` of the AES model

theorem xorAssign_length (a b : Bytes) : (xorAssign a b).length = a.length := by
  simp [xorAssign, xorMin]; omega

/-- value and remainder are the input behind the 8 header bytes, cut in two - whatever the length field says -/
theorem chainDeserialise_append (s : Bytes) : (chainDeserialise s).1 ++ (chainDeserialise s).2 = s.drop 8 :=
  List.take_append_drop _ _

end Shm.Pure
