/-
  Framing lemmas for the RSA paddings of Shm/Crypto/RsaPad.lean.  The OAEP round trip is: what the decoder does with a framed message
  (`emeOaepDecode_frame`), then masking with an MGF output of the same length is undone by masking again (`unmask`), twice.
  The PSS round trip has the same shape: the verifier on a framed message (`emsaPssVerify_frame`), then `clrTop_unmask`.
-/
import Shm.Crypto.RsaPad
import Shm.Lemmas.ModesLemmas
namespace Shm.Crypto

/-- EME-PKCS1-v1_5: decoding `00 02 PS 00 M` with at least eight non-zero padding bytes gives back exactly `M` - for every padding string and every message -/
theorem pkcs1_type2_roundtrip (ps m : Bytes) (h : ∀ b ∈ ps, b ≠ 0) (h8 : 8 ≤ ps.length) :
    emePkcs1Decode (0x00 :: 0x02 :: (ps ++ 0x00 :: m)) = some m := by
  have : ¬ ps.length < 8 := by omega
  -- the padding string is what `takeWhile (· != 0)` takes: it stops at the separator
  simp [emePkcs1Decode, List.takeWhile_append_of_pos (p := (· != 0)) (l₁ := ps) (by simpa using h), this]

theorem mgf1_length_le (hash : Bytes → Bytes) (seed : Bytes) (len : Nat) : (mgf1 hash seed len).length ≤ len := by
  unfold mgf1; simp [List.length_take]; omega

theorem mgf1_length (hash : Bytes → Bytes) (hLen : Nat) (h0 : 0 < hLen) (hh : ∀ x, (hash x).length = hLen) (seed : Bytes) (len : Nat) :
    (mgf1 hash seed len).length = len := by
  unfold mgf1
  have hne : (hLen == 0) = false := by simpa using (Nat.pos_iff_ne_zero.mp h0)
  simp only [hh, hne, Bool.false_eq_true, if_false]
  rw [List.length_take, length_flatMap_const _ (fun c _ => hh _), List.length_range, Nat.mul_comm]
  have : len ≤ (len + hLen - 1) / hLen * hLen := by
    have h1 := Nat.div_add_mod (len + hLen - 1) hLen
    have h2 := Nat.mod_lt (len + hLen - 1) h0
    rw [Nat.mul_comm] at h1
    omega
  omega

/-- masking with a mask of the same length is undone by masking again: the OAEP decoder is this, twice -/
theorem unmask {mgf : Bytes → Nat → Bytes} (hmgf : ∀ s n, (mgf s n).length = n) (x s : Bytes) : xorBytes (xorBytes x (mgf s x.length)) (mgf s x.length) = x :=
  xorBytes_cancel _ _ (by rw [hmgf]; exact Nat.le_refl _)

/-- the decoder on a framed message `y ‖ maskedSeed ‖ maskedDB`: the two unmaskings, then the checks on the data block -/
theorem emeOaepDecode_frame (hash mgfHash : Bytes → Bytes) (y : UInt8) (ms mdb : Bytes) (hms : ms.length = (hash []).length) (hk : (hash []).length + 1 ≤ mdb.length) :
    emeOaepDecode hash mgfHash (y :: ms ++ mdb) =
      let db := xorBytes mdb (mgf1 mgfHash (xorBytes ms (mgf1 mgfHash mdb ms.length)) mdb.length)
      if y != 0 || db.take ms.length != hash [] then none
      else match (db.drop ms.length).dropWhile (· == 0) with
        | 0x01 :: m => some m
        | _ => none := by
  have hk' : ¬ (ms.length + mdb.length + 1 < 2 * ms.length + 2) := by omega
  have e : ms.length + mdb.length + 1 - ms.length - 1 = mdb.length := by omega
  simp only [emeOaepDecode, ← hms, List.cons_append, List.length_cons, List.length_append, hk', if_false, List.headD_cons,
    List.drop_succ_cons, List.drop_zero, List.take_left' rfl, Nat.add_comm 1, List.drop_left' rfl, e]
  rfl  -- the two sides differ in the auxiliary `match` function only

/-- **EME-OAEP round trip**: what the encoder makes of a message (any seed of hash length, any mask generation function that returns the number of bytes asked for) is decoded to exactly
    that message - for every message that fits -/
theorem oaep_roundtrip (hash mgfHash : Bytes → Bytes) (m seed : Bytes) (k : Nat)
    (hmgf : ∀ s n, (mgf1 mgfHash s n).length = n) (hseed : seed.length = (hash []).length) (hfit : m.length + 2 * (hash []).length + 2 ≤ k) :
    emeOaepDecode hash mgfHash (emeOaepEncode hash mgfHash m seed k) = some m := by
  simp only [emeOaepEncode]
  generalize hdb : hash [] ++ List.replicate (k - m.length - 2 * (hash []).length - 2) 0 ++ [0x01] ++ m = db
  have hdbl : k - (hash []).length - 1 = db.length := by subst hdb; simp; omega
  rw [hdbl, ← hseed]
  generalize hmd : xorBytes db (mgf1 mgfHash seed db.length) = mdb
  have hmdl : mdb.length = db.length := by subst hmd; simp [xorBytes_length, hmgf]
  have hmsl : (xorBytes seed (mgf1 mgfHash mdb seed.length)).length = seed.length := by simp [xorBytes_length, hmgf]
  rw [emeOaepDecode_frame _ _ _ _ _ (hmsl.trans hseed) (by omega), hmsl, unmask hmgf, hmdl, ← hmd, unmask hmgf, ← hdb]
  simp [hseed]

theorem u8_and_not (x t : UInt8) : (x &&& t) &&& (~~~ t) = 0 := by
  apply UInt8.eq_of_toBitVec_eq
  ext i hi
  simp
theorem u8_mask_roundtrip (d m t : UInt8) : (((d ^^^ m) &&& t) ^^^ m) &&& t = d &&& t := by
  apply UInt8.eq_of_toBitVec_eq
  simp only [UInt8.toBitVec_and, UInt8.toBitVec_xor]
  ext i hi
  simp only [BitVec.getElem_and, BitVec.getElem_xor]
  cases d.toBitVec[i] <;> cases m.toBitVec[i] <;> cases t.toBitVec[i] <;> rfl
theorem topmask_odd (z : Nat) (hz : z ≤ 7) : (0x01 : UInt8) &&& UInt8.ofNat (0xFF >>> z) = 0x01 := by
  have : z = 0 ∨ z = 1 ∨ z = 2 ∨ z = 3 ∨ z = 4 ∨ z = 5 ∨ z = 6 ∨ z = 7 := by omega
  rcases this with h | h | h | h | h | h | h | h <;> subst h <;> decide

/-- what encoder and verifier do to the data block after masking: the leftmost bits of its first byte are cleared (`t` is the mask `0xFF >>> zeroBits`) -/
def clrTop (t : UInt8) : Bytes → Bytes
  | [] => []
  | x :: r => (x &&& t) :: r

theorem clrTop_length (t : UInt8) (l : Bytes) : (clrTop t l).length = l.length := by cases l <;> rfl

/-- the verifier's first check passes on whatever the encoder cleared -/
theorem clrTop_head (t : UInt8) (l : Bytes) : (clrTop t l).headD 0 &&& ~~~t = 0 := by
  cases l with
  | nil => simp [clrTop]
  | cons x r => exact u8_and_not x t

/-- mask, clear, mask again, clear again: the data block with its leftmost bits cleared -/
theorem clrTop_unmask (t : UInt8) (d m : Bytes) (h : d.length ≤ m.length) : clrTop t (xorBytes (clrTop t (xorBytes d m)) m) = clrTop t d := by
  cases d with
  | nil => rfl
  | cons x d => cases m with
    | nil => simp at h
    | cons y m =>
      have := xorBytes_cancel d m (by simpa using h)
      simp only [xorBytes] at this ⊢
      simp only [List.zipWith_cons_cons, clrTop, u8_mask_roundtrip, this]

/-- `PS ‖ 01 ‖ salt` has no leftmost bits to clear -/
theorem clrTop_db (t : UInt8) (ht : (0x01 : UInt8) &&& t = 0x01) (n : Nat) (salt : Bytes) :
    clrTop t (List.replicate n 0 ++ 0x01 :: salt) = List.replicate n 0 ++ 0x01 :: salt := by
  cases n with
  | zero => simp [clrTop, ht]
  | succ n => simp [clrTop, List.replicate_succ]

/-- the verifier on a framed message `maskedDB ‖ H ‖ bc`: the check of the cleared bits, the unmasking, then the checks on the data block -/
theorem emsaPssVerify_frame (hash mgfHash : Bytes → Bytes) (mHash mdb h : Bytes) (emBits sLen : Nat) (hm : mHash.length = (hash []).length)
    (hh : h.length = (hash []).length) (hl : mdb.length + h.length + 1 = (emBits + 7) / 8) (hfit : h.length + sLen + 2 ≤ (emBits + 7) / 8) :
    emsaPssVerify hash mgfHash mHash (mdb ++ (h ++ [0xbc])) emBits sLen =
      let t := UInt8.ofNat (0xFF >>> (8 * ((emBits + 7) / 8) - emBits))
      let db := clrTop t (xorBytes mdb (mgf1 mgfHash h mdb.length))
      if mdb.headD 0 &&& ~~~t != 0 then false
      else if (db.take (mdb.length - sLen - 1)).any (· != 0) || db.getD (mdb.length - sLen - 1) 0 != 0x01 then false
      else hash (List.replicate 8 0 ++ mHash ++ db.drop (mdb.length - sLen - 1 + 1)) == h := by
  have hc : ¬ (emBits + 7) / 8 < h.length + sLen + 2 := by omega
  have e1 : (emBits + 7) / 8 - h.length - 1 = mdb.length := by omega
  have e2 : (emBits + 7) / 8 - h.length - sLen - 2 = mdb.length - sLen - 1 := by omega
  simp only [emsaPssVerify, ← hh, hm, List.length_append, List.length_cons, List.length_nil, ← Nat.add_assoc, hl, bne_self_eq_false, Bool.or_self,
    Bool.false_eq_true, if_false, hc, List.getLast?_append, List.getLast?_singleton, e1, e2,
    List.take_left' rfl, List.drop_left' rfl]
  rfl  -- the two sides differ in the auxiliary `match` function only

theorem pss_roundtrip (hash mgfHash : Bytes → Bytes) (mHash salt : Bytes) (emBits hLen : Nat)
    (hh : ∀ x, (hash x).length = hLen) (hmgf : ∀ s n, (mgf1 mgfHash s n).length = n)
    (hm : mHash.length = hLen) (hfit : hLen + salt.length + 2 ≤ (emBits + 7) / 8) :
    emsaPssVerify hash mgfHash mHash (emsaPssEncode hash mgfHash mHash salt emBits) emBits salt.length = true := by
  obtain rfl := hh []
  generalize hemLen : (emBits + 7) / 8 = emLen at *
  generalize htm : UInt8.ofNat (0xFF >>> (8 * emLen - emBits)) = t
  have ht : (0x01 : UInt8) &&& t = 0x01 := by rw [← htm]; exact topmask_odd _ (by omega)
  generalize hps : emLen - (hash []).length - salt.length - 2 = psLen
  generalize hdb : List.replicate psLen (0 : UInt8) ++ 0x01 :: salt = db
  have hdbl : emLen - (hash []).length - 1 = db.length := by subst hdb; simp; omega
  generalize hhd : hash (List.replicate 8 0 ++ mHash ++ salt) = h
  have hhl : h.length = (hash []).length := by rw [← hhd]; exact hh _
  -- the encoded message is framed: the masked data block with its leftmost bits cleared, the hash, the trailer
  have henc : emsaPssEncode hash mgfHash mHash salt emBits = clrTop t (xorBytes db (mgf1 mgfHash h db.length)) ++ (h ++ [0xbc]) := by
    simp only [emsaPssEncode, hemLen, hps, hdb, hhd, hdbl, htm]; exact List.append_assoc ..
  generalize hmdb : clrTop t (xorBytes db (mgf1 mgfHash h db.length)) = mdb at henc
  have hmdbl : mdb.length = db.length := by rw [← hmdb, clrTop_length, xorBytes_length, hmgf]; simp
  have hps' : mdb.length - salt.length - 1 = psLen := by omega
  rw [henc, emsaPssVerify_frame _ _ _ _ _ _ _ hm hhl (by omega) (by omega), hemLen, htm, hmdbl, ← hmdbl, hps', hmdbl]
  -- what the verifier unmasks is the data block
  have hun : clrTop t (xorBytes mdb (mgf1 mgfHash h db.length)) = db := by
    rw [← hmdb, clrTop_unmask t db _ (by rw [hmgf]; omega), ← hdb, clrTop_db t ht]
  have hhead : mdb.headD 0 &&& ~~~t = 0 := hmdb ▸ clrTop_head t _
  simp only [hun, hhead]
  subst hdb
  simp [List.take_left', List.getD, List.drop_append]
  simpa using hhd

end Shm.Crypto
