/-
  One induction over the translated update programs (`runProg_all`) and one over the entries of a template (`applyEntries_ok`);
  the analyses of the update programs (no plain byte-string store, never successful, footprint) are instances of the first,
  every statement about an accepted template an instance of the second.
-/
import Shm.Lemmas.Attrs
namespace Shm

/-- every action of the program satisfies `pa`, every code it returns `pr`, and the generic store is called only if `pb` -/
def progAll (pa : UAct → Bool) (pr : Nat → Bool) (pb : Bool) : UProg → Bool
  | .ret rv => pr rv
  | .callBase => pb
  | .act a k => pa a && progAll pa pr pb k
  | .ite _ t e k => progAll pa pr pb t && progAll pa pr pb e && progAll pa pr pb k
  | _ => true

/-- what `progAll` shows of a result, for an invariant `I` of the attributes -/
def ResAll (I : Attrs → Prop) (pr : Nat → Bool) (pb : Bool) : URes → Prop
  | .done rv o => pr rv = true ∧ I o
  | .base o => pb = true ∧ I o
  | .call o | .fell o => I o

theorem runProg_all (e : UEnv) {I : Attrs → Prop} {pa : UAct → Bool} {pr : Nat → Bool} {pb : Bool}
    (hact : ∀ a o, pa a = true → I o → I (doAct e o a)) :
    ∀ (p : UProg) (o : Attrs), progAll pa pr pb p = true → I o → ResAll I pr pb (runProg e p o) := by
  intro p
  induction p with
  | ret rv => exact fun o h hI => ⟨h, hI⟩
  | callBase => exact fun o h hI => ⟨h, hI⟩
  | callUpdateAttr => exact fun o _ hI => hI
  | fall => exact fun o _ hI => hI
  | act a k ih =>
    intro o h hI
    simp only [progAll, Bool.and_eq_true] at h
    exact ih _ h.2 (hact a o h.1 hI)
  | ite c t el k iht ihe ihk =>
    intro o h hI
    simp only [progAll, Bool.and_eq_true] at h
    have hb : ResAll I pr pb (if evalCond e o c then runProg e t o else runProg e el o) := by
      split
      · exact iht o h.1.1 hI
      · exact ihe o h.1.2 hI
    simp only [runProg]
    generalize (if evalCond e o c then runProg e t o else runProg e el o) = r at hb
    cases r with
    | fell o' => exact ihk o' h.2 hb
    | _ => exact hb

/-! ### `P11Attribute::update` is a gate -/

/-- `P11Attribute::update` only decides whether `updateAttr` runs: it performs no action, reports no success of its own and
    never calls the generic store (checked on the program translated on this run) -/
theorem genericUpdate_gate : progAll (fun _ => false) (· != CKR.OK) false Gen.genericUpdate = true := by decide

theorem updateAttribute_eq (d : AttrDesc) (t : TEntry) (op : Nat) (p so : Bool) (o : Attrs) (oRv : RV) :
    updateAttribute d t op p so o oRv = runUpdateAttr d.upd (mkEnv d t op p so) t.nested o oRv ∨
    ((updateAttribute d t op p so o oRv).1 ≠ CKR.OK ∧ (updateAttribute d t op p so o oRv).2 = o) := by
  have h := runProg_all (mkEnv d t op p so) (I := (· = o)) (fun _ _ h => by cases h) _ o genericUpdate_gate rfl
  unfold updateAttribute
  cases hr : runProg (mkEnv d t op p so) Gen.genericUpdate o with
  | done rv o' => rw [hr] at h; exact Or.inr ⟨by simpa using h.1, h.2⟩
  | call o' => rw [hr] at h; cases h; exact Or.inl rfl
  | base o' => rw [hr] at h; exact Or.inr ⟨(by decide : CKR.GENERAL_ERROR ≠ CKR.OK), h.2⟩
  | fell o' => rw [hr] at h; exact Or.inr ⟨(by decide : CKR.GENERAL_ERROR ≠ CKR.OK), h⟩

theorem updateAttribute_ok {d : AttrDesc} {t : TEntry} {op : Nat} {p so : Bool} {o o' : Attrs} {oRv : RV}
    (h : updateAttribute d t op p so o oRv = (CKR.OK, o')) :
    runUpdateAttr d.upd (mkEnv d t op p so) t.nested o oRv = (CKR.OK, o') := by
  rcases updateAttribute_eq d t op p so o oRv with he | ⟨hne, _⟩
  · rw [← he, h]
  · rw [h] at hne; exact absurd rfl hne

/-- when the loop of `saveTemplate` reports no error, every entry was applied with success by a descriptor of the class;
    `I` follows the attributes, `E` is what each success shows of its entry -/
theorem applyEntries_ok {cd : ClassDesc} {op : Nat} {p so : Bool} {oRv : RV} {I : Attrs → Prop} {E : TEntry → Prop}
    (hstep : ∀ d ∈ cd.attrs, ∀ t o o', d.ty = t.ty → I o → updateAttribute d t op p so o oRv = (CKR.OK, o') → I o' ∧ E t) :
    ∀ (tpl : Template) (o o' : Attrs), I o → applyEntries cd op p so oRv tpl o = (CKR.OK, o') → I o' ∧ ∀ t ∈ tpl, E t := by
  intro tpl
  induction tpl with
  | nil => intro o o' hI h; cases h; exact ⟨hI, by simp⟩
  | cons t rest ih =>
    intro o o' hI h
    unfold applyEntries at h
    split at h
    · cases h
    · rename_i d hd
      split at h
      rename_i rv o1 hu
      split at h
      · rename_i hrv; cases h; simp at hrv
      · rename_i hrv
        have : rv = CKR.OK := by simpa using hrv
        subst this
        obtain ⟨hm, hty⟩ := descOf_some hd
        obtain ⟨h1, h2⟩ := hstep d hm t o o1 hty hI hu
        obtain ⟨h3, h4⟩ := ih o1 o' h1 h
        exact ⟨h3, by simpa using ⟨h2, h4⟩⟩

end Shm
