/-
  Lemmas about the configuration-file loader model (Shm/Pure/Config.lean): blanks around the tokens, a single assignment line, the last assignment.
  The theorems they serve are in Shm/Props/C17 (any byte content of the configuration file) and C07 (slots.mechanisms).
-/
import Shm.Pure.Config
import Shm.Lemmas.Lists
namespace Shm.Pure.Config

def plain (c : UInt8) : Bool := c != 0 && c != 0x23 && c != 0x0a && c != 0x0d && c != 0x3d && !isSpace c
def PlainTok (t : Bytes) : Prop := t ≠ [] ∧ ∀ c ∈ t, plain c = true
def blank (c : UInt8) : Bool := c == 0x20 || c == 0x09 || c == 0x0b || c == 0x0c

/-- what `cutLine` keeps: everything up to the first NUL, `#`, LF or CR -/
abbrev lineChar (x : UInt8) : Bool := x != 0 && (x != 0x23 && x != 0x0a && x != 0x0d)

/-- the text of a line as the loader sees it, with one predicate -/
theorem cutLine_eq (c : Bytes) : cutLine c = c.takeWhile lineChar := takeWhile_takeWhile _ _ c

theorem plain_facts {c : UInt8} (h : plain c = true) : lineChar c = true ∧ (c != 0x3d) = true ∧ isSpace c = false := by
  simp only [plain, Bool.and_eq_true, Bool.not_eq_true'] at h
  simp [lineChar, h]

theorem blank_facts {c : UInt8} (h : blank c = true) : lineChar c = true ∧ (c != 0x3d) = true ∧ isSpace c = true := by
  simp only [blank, Bool.or_eq_true, beq_iff_eq] at h
  rcases h with ((h | h) | h) | h <;> subst h <;> decide

theorem trim_plain (t : Bytes) (ht : PlainTok t) (pre post : Bytes) (hpre : ∀ c ∈ pre, isSpace c = true) (hpost : ∀ c ∈ post, isSpace c = true) :
    trim (pre ++ t ++ post) = some t := by
  obtain ⟨hne, hall⟩ := ht
  have hsp : ∀ c ∈ t, ¬ isSpace c = true := fun c hc => by simp [(plain_facts (hall c hc)).2.2]
  obtain ⟨x, xs, rfl⟩ := List.exists_cons_of_ne_nil hne
  obtain ⟨ys, y, hy⟩ : ∃ ys y, x :: xs = ys ++ [y] := ⟨_, _, (List.dropLast_concat_getLast (List.cons_ne_nil x xs)).symm⟩
  have hyt : y ∈ x :: xs := by rw [hy]; simp
  unfold trim
  rw [List.append_assoc, List.dropWhile_append_of_pos hpre, List.cons_append, List.dropWhile_cons_of_neg (hsp x (by simp)),
    ← List.cons_append, List.reverse_append, List.dropWhile_append_of_pos (by simpa using hpost), hy, List.reverse_append,
    List.reverse_singleton, List.singleton_append, List.dropWhile_cons_of_neg (hsp y hyt)]
  simp

/-- a FIELD of an assignment line, a plain token with blanks around it: it is not empty, all of it survives `cutLine`, it holds no `=`
    (so `strtok` takes it whole) and `trimString` gives back the token.  Name and value of `name = value` are two fields. -/
theorem field_facts {t s s' : Bytes} (ht : PlainTok t) (hs : ∀ c ∈ s, blank c = true) (hs' : ∀ c ∈ s', blank c = true) :
    s ++ t ++ s' ≠ [] ∧ (∀ c ∈ s ++ t ++ s', lineChar c = true ∧ (c != 0x3d) = true) ∧ trim (s ++ t ++ s') = some t := by
  refine ⟨by simp [ht.1], ?_, trim_plain t ht s s' (fun c hc => (blank_facts (hs c hc)).2.2) (fun c hc => (blank_facts (hs' c hc)).2.2)⟩
  simp only [List.mem_append]
  rintro c ((hc | hc) | hc)
  · exact ⟨(blank_facts (hs c hc)).1, (blank_facts (hs c hc)).2.1⟩
  · exact ⟨(plain_facts (ht.2 c hc)).1, (plain_facts (ht.2 c hc)).2.1⟩
  · exact ⟨(blank_facts (hs' c hc)).1, (blank_facts (hs' c hc)).2.1⟩

/-- `strtok(.., "=")` on a non-empty piece without `=`: the piece itself, whether the string ends there or a `=` and more follows -/
theorem strtok_tok (pre post : Bytes) (hne : pre ≠ []) (h : ∀ c ∈ pre, (c != 0x3d) = true) :
    strtok pre = some (pre, []) ∧ strtok (pre ++ 0x3d :: post) = some (pre, post) := by
  obtain ⟨x, xs, rfl⟩ := List.exists_cons_of_ne_nil hne
  have hx : ¬ (x == 0x3d) = true := by simpa using h x (by simp)
  have hd (r : Bytes) : ((x :: xs) ++ r).dropWhile (· == 0x3d) = (x :: xs) ++ r := List.dropWhile_cons_of_neg hx
  have e1 := hd []
  have e2 := hd (0x3d :: post)
  have t (r : Bytes) : ((x :: xs) ++ r).takeWhile (· != 0x3d) = (x :: xs) ++ r.takeWhile (· != 0x3d) := List.takeWhile_append_of_pos h
  have d (r : Bytes) : ((x :: xs) ++ r).dropWhile (· != 0x3d) = r.dropWhile (· != 0x3d) := List.dropWhile_append_of_pos h
  have t1 := t []
  have d1 := d []
  rw [List.append_nil] at e1 t1 d1
  constructor
  · simp only [strtok, e1, t1, d1]; simp
  · simp only [strtok, e2, t, d]; simp

/-- **an assignment line means what it says**: `name = value` with any blanks around the two plain tokens, followed by a newline and anything, is read as (name, value) -/
theorem parseLine_assign (n v s1 s2 s3 s4 tail : Bytes) (hn : PlainTok n) (hv : PlainTok v)
    (h1 : ∀ c ∈ s1, blank c = true) (h2 : ∀ c ∈ s2, blank c = true) (h3 : ∀ c ∈ s3, blank c = true) (h4 : ∀ c ∈ s4, blank c = true) :
    parseLine (s1 ++ n ++ s2 ++ 0x3d :: (s3 ++ v ++ s4) ++ 0x0a :: tail) = some (n, v) := by
  obtain ⟨ne1, c1, t1⟩ := field_facts hn h1 h2
  obtain ⟨ne2, c2, t2⟩ := field_facts hv h3 h4
  have hline : ∀ c ∈ s1 ++ n ++ s2 ++ 0x3d :: (s3 ++ v ++ s4), lineChar c = true := by
    intro c hc
    rcases List.mem_append.mp hc with hc | hc
    · exact (c1 c hc).1
    · rcases List.mem_cons.mp hc with rfl | hc
      · decide
      · exact (c2 c hc).1
  have hne : (s1 ++ n ++ s2 ++ 0x3d :: (s3 ++ v ++ s4)).isEmpty = false := by simp
  unfold parseLine
  rw [cutLine_eq, List.takeWhile_append_of_pos hline, List.takeWhile_cons_of_neg (by decide), List.append_nil]
  simp only [hne, Bool.false_eq_true, if_false, (strtok_tok _ _ ne1 fun c hc => (c1 c hc).2).2, t1,
    (strtok_tok _ [] ne2 fun c hc => (c2 c hc).2).1, t2, Option.bind_eq_bind, Option.bind_some, Option.pure_def]

theorem fgetsChunk_line (a r : Bytes) (n : Nat) (ha : ∀ c ∈ a, (c == 0x0a) = false) (hn : a.length < n) :
    fgetsChunk n (a ++ 0x0a :: r) = (a ++ [0x0a], r) := by
  induction a generalizing n with
  | nil =>
    cases n with
    | zero => simp at hn
    | succ m => simp [fgetsChunk]
  | cons x xs ih =>
    cases n with
    | zero => simp at hn
    | succ m =>
      have hx : (x == 0x0a) = false := ha x (by simp)
      simp only [List.cons_append, fgetsChunk, hx, Bool.false_eq_true, if_false]
      rw [ih m (fun c hc => ha c (by simp [hc])) (by simpa using hn)]

/-- `fgets` splits at newlines: a line of at most 1023 bytes is one chunk, whatever follows it -/
theorem chunksFuel_line (a r : Bytes) (f : Nat) (ha : ∀ c ∈ a, (c == 0x0a) = false) (hn : a.length < 1023) :
    chunksFuel (f + 1) (a ++ 0x0a :: r) = (a ++ [0x0a]) :: chunksFuel f r := by
  have h := fgetsChunk_line a r 1023 ha hn
  cases a <;> simp only [List.nil_append, List.cons_append] at h ⊢ <;> simp only [chunksFuel, h]

theorem fileChunks_one_line (a : Bytes) (ha : ∀ c ∈ a, (c == 0x0a) = false) (hn : a.length < 1023) :
    fileChunks (a ++ [0x0a]) = [a ++ [0x0a]] := by
  rw [fileChunks, List.length_append, chunksFuel_line a [] _ ha hn]; simp [chunksFuel]

/-- the loader as a fold over the chunks `fgets` delivered -/
def loadChunks (s : Settings) (cs : List Bytes) : Settings :=
  cs.foldl (fun s chunk => match parseLine chunk with
    | some (n, v) => assign s n v
    | none => s) s

theorem load_eq (file : Bytes) : load file = loadChunks [] (fileChunks file) := rfl

theorem set_get_same (s : Settings) (k : String) (v : CVal) : (s.set k v).get k = some v := by
  simp [Settings.set, Settings.get]

theorem set_get_other (s : Settings) (k k' : String) (v : CVal) (h : k' ≠ k) : (s.set k' v).get k = s.get k := by
  have h1 : (k' == k) = false := by simpa using h
  -- looking for `k` among the entries whose name is not `k'` is looking for `k`
  simp only [Settings.set, Settings.get, List.find?_cons, h1, List.find?_filter]
  congr 2; funext a
  by_cases ha : a.1 = k <;> simp [ha, Ne.symm h]

/-- does this chunk assign a value to setting `k`? -/
def touches (k : String) (chunk : Bytes) : Bool :=
  match parseLine chunk with
  | some (n, _) => (match typeOf n with | some (k', _) => k' == k | none => false)
  | none => false

theorem assign_untouched (s : Settings) (n v : Bytes) (k : String)
    (h : (match typeOf n with | some (k', _) => k' == k | none => false) = false) : (assign s n v).get k = s.get k := by
  unfold assign
  cases ht : typeOf n with
  | none => rfl
  | some kt =>
    obtain ⟨k', t⟩ := kt
    rw [ht] at h
    have hne : k' ≠ k := by simpa using h
    cases t with
    | str => exact set_get_other _ _ _ _ hne
    | int => exact set_get_other _ _ _ _ hne
    | oct => exact set_get_other _ _ _ _ hne
    | bool =>
      cases string2bool v with
      | none => rfl
      | some b => exact set_get_other _ _ _ _ hne

theorem loadChunks_untouched (k : String) (cs : List Bytes) (s : Settings) (h : ∀ c ∈ cs, touches k c = false) :
    (loadChunks s cs).get k = s.get k :=
  foldl_inv (P := fun s' : Settings => s'.get k = s.get k) cs (fun s' c hc hs' => by
    have ht := h c hc
    unfold touches at ht
    cases hp : parseLine c with
    | none => exact hs'
    | some nv => rw [hp] at ht; exact (assign_untouched s' nv.1 nv.2 k ht).trans hs') rfl

/-- the last assignment wins: whatever precedes it, a string setting has the value of the last chunk that assigns it -/
theorem loadChunks_last_wins (k : String) (pre post : List Bytes) (c n v : Bytes) (s : Settings)
    (hp : parseLine c = some (n, v)) (hk : typeOf n = some (k, .str)) (hpost : ∀ c' ∈ post, touches k c' = false) :
    (loadChunks s (pre ++ c :: post)).get k = some (.str v) := by
  unfold loadChunks
  rw [List.foldl_append, List.foldl_cons]
  show (loadChunks _ post).get k = _
  rw [loadChunks_untouched k post _ hpost, hp]
  simp only [assign, hk]
  exact set_get_same _ _ _

/-- **a one-line configuration file `name = value`** sets exactly that string setting to exactly that value (for the settings of string type, e.g.
    `slots.mechanisms`, `directories.tokendir`): the one line is the last assignment -/
theorem load_single_string (k : String) (v : Bytes) (hk : typeOf (keyBytes k) = some (k, .str)) (hkp : PlainTok (keyBytes k)) (hv : PlainTok v)
    (hlen : (keyBytes k).length + v.length + 3 < 1023) :
    (load (keyBytes k ++ [0x20, 0x3d, 0x20] ++ v ++ [0x0a])).get k = some (.str v) := by
  have nl {c : UInt8} (h : plain c = true) : (c == 0x0a) = false := by
    have := (plain_facts h).1; simp only [lineChar, Bool.and_eq_true, bne_iff_ne, ne_eq] at this; simp [this]
  have hno : ∀ c ∈ keyBytes k ++ [0x20, 0x3d, 0x20] ++ v, (c == 0x0a) = false := by
    simp only [List.mem_append, List.mem_cons, List.mem_nil_iff, or_false]
    rintro c ((hc | rfl | rfl | rfl) | hc)
    · exact nl (hkp.2 c hc)
    · decide
    · decide
    · decide
    · exact nl (hv.2 c hc)
  rw [load_eq, fileChunks_one_line _ hno (by simp; omega)]
  refine loadChunks_last_wins k [] [] _ (keyBytes k) v [] ?_ hk (by simp)
  simpa using parseLine_assign (keyBytes k) v [] [0x20] [0x20] [] [] hkp hv (by simp) (by simp [blank]) (by simp [blank]) (by simp)

end Shm.Pure.Config
