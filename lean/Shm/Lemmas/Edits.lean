/-
  What one call can do to the state, field by field: to the object list (`ObjsEdit`), to the handle table and its counter
  (`TableEdit`), to the slot list (`SlotEdit`).  Each relation lists the few primitive changes the step functions are built from,
  and a property that speaks of ONE of the three fields (identities and attributes of objects, the encryption rule, table
  well-formedness, dead handles, token isolation, PINs) is an induction over its relation (this file); which changes a given call makes
  is found by one walk through the step functions (`Lemmas/StepEdits.lean`, `Lemmas/Creates.lean`).
-/
import Shm.Lemmas.Enc
import Shm.Lemmas.Slots
import Shm.Lemmas.HTable
import Shm.Lemmas.Lists
namespace Shm

/-- the objects `os'` are objects of `os`, in the same order, possibly moved to another slot -/
def ObjsSub (os os' : List Obj) : Prop :=
  (∀ o' ∈ os', ∃ o ∈ os, o' = { o with slot := o'.slot }) ∧ (os'.map (·.oid)).Sublist (os.map (·.oid))

theorem ObjsSub.map_filter (os : List Obj) (p : Obj → Bool) (g : Obj → Obj) (hg : ∀ o, g o = { o with slot := (g o).slot }) :
    ObjsSub os ((os.filter p).map g) := by
  refine ⟨fun o' ho' => ?_, ?_⟩
  · obtain ⟨o, ho, rfl⟩ := List.mem_map.mp ho'
    exact ⟨o, (List.mem_filter.mp ho).1, hg o⟩
  · rw [List.map_map, List.map_congr_left (g := (·.oid)) fun o _ => by rw [Function.comp, hg o]]
    exact List.Sublist.map _ List.filter_sublist

theorem ObjsSub.filter (os : List Obj) (p : Obj → Bool) : ObjsSub os (os.filter p) := by
  simpa using ObjsSub.map_filter os p id fun _ => rfl

theorem ObjsSub.refl (os : List Obj) : ObjsSub os os := ⟨fun o h => ⟨o, h, rfl⟩, List.Sublist.refl _⟩

/-- One call's change of the object list.  `e`: the object whose attributes it may replace; `R p a`: what is known of an attribute
    list `a` it stores for an object of privacy `p`. -/
inductive ObjsEdit (R : Bool → Attrs → Prop) (e : Option Nat) : State → State → Prop
  | sub {s s' : State} (ho : ObjsSub s.objs s'.objs) (hn : s'.nextOid = s.nextOid) : ObjsEdit R e s s'
  | upd {s s' : State} (oid : Nat) (a : Attrs) (he : e = some oid) (hr : ∀ o ∈ s.objs, o.oid = oid → R o.isPriv a)
      (ho : s'.objs = updObj s.objs oid a) (hn : s'.nextOid = s.nextOid) : ObjsEdit R e s s'
  | add (s : State) (slot h : Nat) (t p : Bool) (a : Attrs) (hr : R p a) : ObjsEdit R e s (addObject s slot h t p a).1
  | trans {s s1 s2 : State} : ObjsEdit R e s s1 → ObjsEdit R e s1 s2 → ObjsEdit R e s s2

theorem ObjsEdit.keep {R : Bool → Attrs → Prop} {e : Option Nat} {s s' : State} (ho : s'.objs = s.objs) (hn : s'.nextOid = s.nextOid) :
    ObjsEdit R e s s' := .sub (ho ▸ ObjsSub.refl _) hn

theorem ObjsEdit.mono {R R' : Bool → Attrs → Prop} {e : Option Nat} {s s' : State} (hR : ∀ p a, R p a → R' p a) (h : ObjsEdit R e s s') :
    ObjsEdit R' e s s' := by
  induction h with
  | sub ho hn => exact .sub ho hn
  | upd oid a he hr ho hn => exact .upd oid a he (fun o ho' h => hR _ _ (hr o ho' h)) ho hn
  | add s slot h t p a hr => exact .add s slot h t p a (hR _ _ hr)
  | trans _ _ ih1 ih2 => exact .trans ih1 ih2

theorem mem_updObj {os : List Obj} {oid : Nat} {a : Attrs} {o' : Obj} (h : o' ∈ updObj os oid a) :
    ∃ o ∈ os, (o.oid = oid ∧ o' = { o with attrs := a }) ∨ (o.oid ≠ oid ∧ o' = o) := by
  obtain ⟨o, ho, rfl⟩ := List.mem_map.mp h
  refine ⟨o, ho, ?_⟩
  by_cases he : o.oid = oid <;> simp [he]

/-- `o'` is an object of `s` with identity, nature and owner kept, and its attributes kept or (if it is `e`) replaced by a list of
    which `R` holds; or it was made between `s` and `s'`, with attributes of which `R` holds -/
def Origin (R : Bool → Attrs → Prop) (e : Option Nat) (s s' : State) (o' : Obj) : Prop :=
  (∃ o ∈ s.objs, o.oid = o'.oid ∧ o.onToken = o'.onToken ∧ o.isPriv = o'.isPriv ∧ o.owner = o'.owner ∧
    (o.attrs = o'.attrs ∨ (e = some o.oid ∧ R o'.isPriv o'.attrs))) ∨
  (s.nextOid ≤ o'.oid ∧ o'.oid < s'.nextOid ∧ R o'.isPriv o'.attrs)

theorem ObjsEdit.origin {R : Bool → Attrs → Prop} {e : Option Nat} {s s' : State} (h : ObjsEdit R e s s') :
    s.nextOid ≤ s'.nextOid ∧ ∀ o' ∈ s'.objs, Origin R e s s' o' := by
  induction h with
  | sub ho hn =>
    refine ⟨by omega, fun o' ho' => Or.inl ?_⟩
    obtain ⟨o, hm, he⟩ := ho.1 o' ho'
    exact ⟨o, hm, by rw [he], by rw [he], by rw [he], by rw [he], Or.inl (by rw [he])⟩
  | upd oid a he hr ho hn =>
    refine ⟨by omega, fun o' ho' => Or.inl ?_⟩
    obtain ⟨o, hm, ⟨h1, rfl⟩ | ⟨_, rfl⟩⟩ := mem_updObj (ho ▸ ho')
    · exact ⟨o, hm, rfl, rfl, rfl, rfl, Or.inr ⟨h1 ▸ he, hr o hm h1⟩⟩
    · exact ⟨_, hm, rfl, rfl, rfl, rfl, Or.inl rfl⟩
  | add s slot h t p a hr =>
    refine ⟨Nat.le_succ _, fun o' ho' => ?_⟩
    simp only [addObject, List.mem_append, List.mem_singleton] at ho'
    rcases ho' with hm | rfl
    · exact Or.inl ⟨o', hm, rfl, rfl, rfl, rfl, Or.inl rfl⟩
    · exact Or.inr ⟨Nat.le_refl _, Nat.lt_succ_self _, hr⟩
  | trans _ _ ih1 ih2 =>
    refine ⟨Nat.le_trans ih1.1 ih2.1, fun o'' ho'' => ?_⟩
    rcases ih2.2 o'' ho'' with ⟨o', hm', e1, e2, e3, e4, ha'⟩ | ⟨h1, h2, hr⟩
    · -- through an object `o'` of the state in between
      rcases ih1.2 o' hm' with ⟨o, hm, f1, f2, f3, f4, ha⟩ | ⟨g1, g2, gr⟩
      · refine Or.inl ⟨o, hm, f1.trans e1, f2.trans e2, f3.trans e3, f4.trans e4, ?_⟩
        rcases ha', ha with ⟨ha' | ⟨he, hr⟩, ha | ⟨he0, hr0⟩⟩
        · exact Or.inl (ha.trans ha')
        · exact Or.inr ⟨he0, by rw [← e3, ← ha']; exact hr0⟩
        · exact Or.inr ⟨by rw [he, f1], hr⟩
        · exact Or.inr ⟨he0, hr⟩
      · refine Or.inr ⟨by omega, by omega, ?_⟩
        rcases ha' with ha' | ⟨_, hr⟩
        · rw [← e3, ← ha']; exact gr
        · exact hr
    · exact Or.inr ⟨by omega, h2, hr⟩

/-- every object of `s'` is an object of `s` with the same identity and token/session nature, or was created by this call -/
def Evolves (s s' : State) : Prop :=
  s.nextOid ≤ s'.nextOid ∧
  ∀ o' ∈ s'.objs, (∃ o ∈ s.objs, o.oid = o'.oid ∧ o.onToken = o'.onToken ∧ o.isPriv = o'.isPriv ∧ o.owner = o'.owner) ∨
                  (s.nextOid ≤ o'.oid ∧ o'.oid < s'.nextOid)

theorem Evolves.refl (s : State) : Evolves s s := ⟨Nat.le_refl _, fun o h => Or.inl ⟨o, h, rfl, rfl, rfl, rfl⟩⟩

theorem Evolves.trans {a b c : State} (h1 : Evolves a b) (h2 : Evolves b c) : Evolves a c := by
  refine ⟨Nat.le_trans h1.1 h2.1, fun o ho => ?_⟩
  rcases h2.2 o ho with ⟨o1, hm1, e1, e2, e3, e4⟩ | ⟨h3, h4⟩
  · rcases h1.2 o1 hm1 with ⟨o0, hm0, f1, f2, f3, f4⟩ | ⟨h5, h6⟩
    · exact Or.inl ⟨o0, hm0, f1.trans e1, f2.trans e2, f3.trans e3, f4.trans e4⟩
    · exact Or.inr ⟨by omega, by have := h2.1; omega⟩
  · exact Or.inr ⟨by have := h1.1; omega, h4⟩

theorem ObjsEdit.evolves {R : Bool → Attrs → Prop} {e : Option Nat} {s s' : State} (h : ObjsEdit R e s s') : Evolves s s' :=
  ⟨h.origin.1, fun o' ho' => (h.origin.2 o' ho').imp (fun ⟨o, hm, a, b, c, d, _⟩ => ⟨o, hm, a, b, c, d⟩) fun ⟨a, b, _⟩ => ⟨a, b⟩⟩

/-- every object of `s'` that is not new (and is not `except`) is an object of `s` with identical attributes -/
def Kept (except : Option Nat) (s s' : State) : Prop :=
  ∀ o' ∈ s'.objs, o'.oid < s.nextOid → some o'.oid ≠ except →
    ∃ o ∈ s.objs, o.oid = o'.oid ∧ o.attrs = o'.attrs ∧ o.onToken = o'.onToken ∧ o.isPriv = o'.isPriv

theorem ObjsEdit.kept {R : Bool → Attrs → Prop} {e : Option Nat} {s s' : State} (h : ObjsEdit R e s s') : Kept e s s' := by
  intro o' ho' hlt hne
  rcases h.origin.2 o' ho' with ⟨o, hm, h1, h2, h3, _, ha | ⟨he, _⟩⟩ | ⟨h1, _⟩
  · exact ⟨o, hm, h1, ha, h2, h3⟩
  · exact absurd (by rw [he, h1]) hne
  · omega

def OidInv (s : State) : Prop := ∀ o ∈ s.objs, o.oid < s.nextOid
def OidNodup (s : State) : Prop := (s.objs.map (·.oid)).Nodup

theorem oidInv_of_evolves {s s' : State} (h : OidInv s) (e : Evolves s s') : OidInv s' := by
  intro o ho
  rcases e.2 o ho with ⟨o0, hm, he, _⟩ | ⟨_, h2⟩
  · have := h o0 hm; have := e.1; omega
  · exact h2

/-- `s'` has no duplicated identity if `s` has none (given that `s` allocates fresh ids) -/
def NodupStep (s s' : State) : Prop := OidInv s → OidNodup s → OidNodup s'

theorem updObj_oids (os : List Obj) (oid : Nat) (a : Attrs) : (updObj os oid a).map (·.oid) = os.map (·.oid) := by
  rw [updObj, List.map_map]
  exact List.map_congr_left fun o _ => by simp only [Function.comp]; split <;> rfl

theorem ObjsEdit.nodup {R : Bool → Attrs → Prop} {e : Option Nat} {s s' : State} (h : ObjsEdit R e s s') : NodupStep s s' := by
  induction h with
  | sub ho hn => exact fun _ hd => hd.sublist ho.2
  | upd oid a _ _ ho hn => exact fun _ hd => by unfold OidNodup; rw [ho, updObj_oids]; exact hd
  | add s slot h t p a _ =>
    intro hi hd
    unfold OidNodup
    simp only [addObject, List.map_append, List.map_cons, List.map_nil]
    refine List.nodup_append.mpr ⟨hd, by simp, fun x hx y hy => ?_⟩
    obtain ⟨o, ho, rfl⟩ := List.mem_map.mp hx
    have := hi o ho
    simp at hy
    omega
  | trans h1 _ ih1 ih2 => exact fun hi hd => ih2 (oidInv_of_evolves hi h1.evolves) (ih1 hi hd)

theorem unique_of_nodup {s : State} (h : OidNodup s) {o1 o2 : Obj} (h1 : o1 ∈ s.objs) (h2 : o2 ∈ s.objs) (he : o1.oid = o2.oid) : o1 = o2 :=
  inj_of_nodup_map Obj.oid s.objs h o1 h1 o2 h2 he

def EncInv (s : State) : Prop := ∀ o ∈ s.objs, EncOK o.isPriv o.attrs

/-- every object of `s'` has the attributes and privacy of an object of `s`, or satisfies the encryption rule by construction -/
def EncStep (s s' : State) : Prop :=
  ∀ o' ∈ s'.objs, (∃ o ∈ s.objs, o.attrs = o'.attrs ∧ o.isPriv = o'.isPriv) ∨ EncOK o'.isPriv o'.attrs

theorem EncStep.inv {s s' : State} (h : EncStep s s') (hi : EncInv s) : EncInv s' := by
  intro o' ho'
  rcases h o' ho' with ⟨o, hm, ha, hp⟩ | h
  · rw [← ha, ← hp]; exact hi o hm
  · exact h

/-- what a call knows of an attribute list it stores in state `s`: it obeys the encryption rule, provided the objects of `s` do and
    have unique identities (C_SetAttributeValue and C_CopyObject start from the attributes of an object of `s`) -/
def Stored (s : State) (p : Bool) (a : Attrs) : Prop := EncInv s → OidNodup s → EncOK p a

theorem ObjsEdit.encStep {s : State} (hi : EncInv s) (hn : OidNodup s) {e : Option Nat} {a b : State} (h : ObjsEdit (Stored s) e a b) :
    EncStep a b := fun o' ho' => by
  rcases h.origin.2 o' ho' with ⟨o, hm, _, _, h3, _, ha | ⟨_, hr⟩⟩ | ⟨_, _, hr⟩
  · exact Or.inl ⟨o, hm, ha, h3⟩
  · exact Or.inr (hr hi hn)
  · exact Or.inr (hr hi hn)

/-- One call's change of the handle table `t` and its counter `c`: an entry is appended under the next counter value (a session entry
    only where `opens` allows it), a session record is replaced by one of the same slot and R/W flag, entries are erased (only where
    `purge` allows it). -/
inductive TableEdit (purge opens : Bool) : HTable → Nat → HTable → Nat → Prop
  | keep (t : HTable) (c : Nat) : TableEdit purge opens t c t c
  | append (t : HTable) (c : Nat) (e : Ent) (he : opens = false → e.isSess = false) : TableEdit purge opens t c (t ++ [(c + 1, e)]) (c + 1)
  | setSess (t : HTable) (c h : Nat) (ss x : Sess) (hs : t.getSess h = some ss) (h1 : x.slot = ss.slot) (h2 : x.rw = ss.rw) :
      TableEdit purge opens t c (t.setSess h x) c
  | erase (t : HTable) (c : Nat) (p : Nat → Ent → Bool) (hp : purge = true) : TableEdit purge opens t c (t.eraseIf p) c
  | trans {t t1 t2 : HTable} {c c1 c2 : Nat} : TableEdit purge opens t c t1 c1 → TableEdit purge opens t1 c1 t2 c2 → TableEdit purge opens t c t2 c2

theorem TableEdit.sessionClosed {purge opens : Bool} (hp : purge = true) (t : HTable) (c h : Nat) : TableEdit purge opens t c (t.sessionClosed h) c := by
  cases hs : t.getSess h with
  | none => unfold HTable.sessionClosed; rw [hs]; exact .keep t c
  | some ss => rw [sessionClosed_eq hs]; exact .erase _ _ _ hp

theorem TableEdit.allSessionsClosed {purge opens : Bool} (hp : purge = true) (t : HTable) (c slot : Nat) :
    TableEdit purge opens t c (t.allSessionsClosed slot) c := .erase _ _ _ hp

theorem TableEdit.tokenLoggedOut {purge opens : Bool} (hp : purge = true) (t : HTable) (c slot : Nat) :
    TableEdit purge opens t c (t.tokenLoggedOut slot) c := .erase _ _ _ hp

theorem TableEdit.destroyObject {purge opens : Bool} (hp : purge = true) (t : HTable) (c h : Nat) : TableEdit purge opens t c (t.destroyObject h) c :=
  destroyObject_eq t h ▸ .erase _ _ _ hp

theorem TableEdit.mintAll {purge opens : Bool} (slot hS : Nat) (os : List Obj) :
    ∀ (t : HTable) (c : Nat), TableEdit purge opens t c (mintAll t c slot hS os) (c + os.length) := by
  induction os with
  | nil => exact fun t c => .keep t c
  | cons o rest ih =>
    intro t c
    rw [List.length_cons, ← Nat.add_assoc, Nat.add_right_comm]
    exact .trans (.append t c _ fun _ => rfl) (ih _ _)

theorem TableEdit.wf {purge opens : Bool} {t t' : HTable} {c c' : Nat} (h : TableEdit purge opens t c t' c') (hw : t.WF c) : t'.WF c' := by
  induction h with
  | keep => exact hw
  | append t c e _ => exact hw.append e
  | setSess t c h ss x => exact hw.setSess h x
  | erase t c p => exact hw.eraseIf p
  | trans _ _ ih1 ih2 => exact ih2 (ih1 hw)

theorem TableEdit.counter_le {purge opens : Bool} {t t' : HTable} {c c' : Nat} (h : TableEdit purge opens t c t' c') : c ≤ c' := by
  induction h with
  | append => exact Nat.le_succ _
  | trans _ _ ih1 ih2 => exact Nat.le_trans ih1 ih2
  | _ => exact Nat.le_refl _

/-- a handle value that has been issued and is no longer valid stays invalid -/
theorem TableEdit.get_none {purge opens : Bool} {t t' : HTable} {c c' : Nat} (h : TableEdit purge opens t c t' c') (hw : t.WF c) {k : Nat} (hk : k ≤ c)
    (hg : t.get k = none) : t'.get k = none := by
  induction h with
  | keep => exact hg
  | append t c e _ => rw [get_append_old hw e k hk]; exact hg
  | setSess t c h ss x => rw [get_setSess, hg]; rfl
  | erase t c p => rw [get_eraseIf hw, hg]; rfl
  | trans h1 _ ih1 ih2 => exact ih2 (h1.wf hw) (Nat.le_trans hk h1.counter_le) (ih1 hw hk hg)

/-- One call's change of the slot list: only the token of the slot `a` the call is addressed to changes; its PINs only where `pins`
    allows it, who is logged in only where `login` allows it. -/
inductive SlotEdit (a : Option Nat) (pins login : Bool) (ss : List Slot) : List Slot → Prop
  | keep : SlotEdit a pins login ss ss
  | free : SlotEdit a pins login ss (ensureFreeSlot ss)
  | setTok (id : Nat) (t' : Tok) (ha : a = some id)
      (hp : pins = false → ∃ t, findTok ss id = some t ∧ t'.soPin = t.soPin ∧ t'.userPin = t.userPin)
      (hl : login = false → ∃ t, findTok ss id = some t ∧ t'.soIn = t.soIn ∧ t'.userIn = t.userIn) : SlotEdit a pins login ss (setTok ss id t')
  | logout (id : Nat) (ha : a = some id) (hl : login = true) : SlotEdit a pins login ss (logoutSlot ss id)

theorem SlotEdit.findTok_other {a : Option Nat} {pins login : Bool} {ss ss' : List Slot} (h : SlotEdit a pins login ss ss') {b : Nat} (hb : a ≠ some b) :
    findTok ss' b = findTok ss b := by
  cases h with
  | keep => rfl
  | free => exact findTok_ensureFreeSlot ss b
  | setTok id t' ha _ _ => rw [findTok_setTok, if_neg fun e => hb (by rw [ha, e])]
  | logout id ha _ => rw [findTok_logoutSlot, if_neg fun e => hb (by rw [ha, e])]

end Shm
