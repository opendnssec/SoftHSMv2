/-
  Every call of the machine (`stepAny`: a call of Step.lean, of Ops.lean / Wrap.lean, or a restart) and every run: what
  `step_edits` and `stepOp_creates` give for the object list, and the invariants of the reachable states that follow.
-/
import Shm.Lemmas.StepEdits
import Shm.Lemmas.Creates
namespace Shm

/-- the object a call may change the attributes of: only C_SetAttributeValue has one -/
def changeTarget (s : State) : AnyCall → Option Nat
  | .core c => setAttrTarget s c
  | _ => none

theorem stepAny_objs (s : State) (c : AnyCall) : ObjsEdit (Stored s) (changeTarget s c) s (stepAny s c).1 := by
  cases c with
  | core c => exact step_objs s c
  | op c => exact (stepOp_creates s c).objs.mono fun _ _ h _ _ => h
  | restart => exact .sub (ObjsSub.filter s.objs (·.onToken)) rfl

theorem evolves_stepAny (s : State) (c : AnyCall) : Evolves s (stepAny s c).1 := (stepAny_objs s c).evolves

theorem evolves_runAny (s : State) (cs : List AnyCall) : Evolves s (runAny s cs) :=
  foldl_inv (P := Evolves s) cs (fun s' c _ h => h.trans (evolves_stepAny s' c)) (Evolves.refl s)

theorem kept_stepAny (s : State) (c : AnyCall) : Kept (changeTarget s c) s (stepAny s c).1 := (stepAny_objs s c).kept

theorem nodupStep_stepAny (s : State) (c : AnyCall) : NodupStep s (stepAny s c).1 := (stepAny_objs s c).nodup

theorem encStep_stepAny (s : State) (hn : OidNodup s) (hi : EncInv s) (c : AnyCall) : EncStep s (stepAny s c).1 := (stepAny_objs s c).encStep hi hn

theorem oid_invariants (cs : List AnyCall) : ∀ s, OidInv s → OidNodup s → OidInv (runAny s cs) ∧ OidNodup (runAny s cs) := fun _ h1 h2 =>
  foldl_inv (P := fun s => OidInv s ∧ OidNodup s) cs (fun s c _ h => ⟨oidInv_of_evolves h.1 (evolves_stepAny s c), nodupStep_stepAny s c h.1 h.2⟩) ⟨h1, h2⟩

theorem oid_invariants_init (cs : List AnyCall) : OidInv (runAny {} cs) ∧ OidNodup (runAny {} cs) :=
  oid_invariants cs {} (fun _ h => by simp at h) (by simp [OidNodup])

theorem inv_stepAny (s : State) (c : AnyCall) (h : OidInv s ∧ OidNodup s ∧ EncInv s) :
    OidInv (stepAny s c).1 ∧ OidNodup (stepAny s c).1 ∧ EncInv (stepAny s c).1 :=
  ⟨oidInv_of_evolves h.1 (evolves_stepAny s c), nodupStep_stepAny s c h.1 h.2.1, (encStep_stepAny s h.2.1 h.2.2 c).inv h.2.2⟩

theorem encInv_runAny (cs : List AnyCall) : ∀ s, OidInv s → OidNodup s → EncInv s → EncInv (runAny s cs) := fun _ h1 h2 h3 =>
  (foldl_inv cs (fun s c _ => inv_stepAny s c) ⟨h1, h2, h3⟩).2.2

theorem encInv_reachable (cs : List AnyCall) : EncInv (runAny {} cs) :=
  encInv_runAny cs {} (oid_invariants_init []).1 (oid_invariants_init []).2 (fun _ h => by simp at h)

end Shm
