/-
  RFC 3394 / RFC 5649: unwrap undoes wrap, for every block function with a left inverse on 16-byte blocks, every number of 64-bit blocks.
  The wrapping function is a fold of steps, each undone by the matching unwrapping step (`kw_step_inv`, `foldl_undo`); `kw_core` says so for
  the byte strings both formats emit, whatever the initial value, and the two round trips are its instances.
-/
import Shm.Crypto.KeyWrap
import Shm.Lemmas.ModesLemmas
namespace Shm.Crypto

/-- the register state of the wrapping function: A of 8 bytes, `n` registers R[i] of 8 bytes -/
def KwWF (n : Nat) (s : Bytes × List Bytes) : Prop := s.1.length = 8 ∧ s.2.length = n ∧ ∀ r ∈ s.2, r.length = 8

theorem kw_step_inv {E D : Bytes → Bytes} (h : BlockInv E D) (n : Nat) (hn : 0 < n) (s : Bytes × List Bytes) (t : Nat) (hs : KwWF n s) :
    kuStep D n (kwStep E n s t) t = s ∧ KwWF n (kwStep E n s t) := by
  obtain ⟨a, r⟩ := s
  obtain ⟨ha, hr, hall⟩ := hs
  have hi : (t - 1) % n < r.length := by rw [hr]; exact Nat.mod_lt _ hn
  simp only [kuStep, kwStep, setAt, KwWF]
  generalize (t - 1) % n = i at hi
  have hri : r.getD i [] = r[i] := by simp [hi]
  have hin : (a ++ r[i]).length = 16 := by simp [ha, hall]
  have hb := h.len _ hin
  have hinv := h.inv _ hin
  rw [hri]
  generalize E (a ++ r[i]) = b at hb hinv
  have hx : (xorBytes (b.take 8) (be8w t)).length = 8 := by simp [xorBytes_length, hb, show (be8w t).length = 8 from rfl]
  refine ⟨?_, hx, by simp [hr], ?_⟩
  · rw [xorBytes_cancel _ _ (by simp [hb, show (be8w t).length = 8 from rfl])]
    simp [hi, hinv, List.take_left' ha, List.drop_left' ha]
  · intro x hx
    rcases List.mem_or_eq_of_mem_set hx with hx | rfl
    · exact hall x hx
    · simp [hb]

/-- the byte string both wrap formats emit: A ‖ R[1] ‖ … ‖ R[n] after the wrapping function -/
def kwBytes (E : Bytes → Bytes) (iv q : Bytes) : Bytes := (kwW E iv (chunks 8 q)).1 ++ (kwW E iv (chunks 8 q)).2.flatten

/-- **the wrapping function with ANY 8-byte initial value is undone by the unwrapping function**, on the byte strings as the two formats cut them -/
theorem kw_core {E D : Bytes → Bytes} (h : BlockInv E D) (iv q : Bytes) (hiv : iv.length = 8) (h8 : q.length % 8 = 0) (hq : 0 < q.length) :
    (kwBytes E iv q).length = 8 + q.length ∧
    kwWinv D ((kwBytes E iv q).take 8) (chunks 8 ((kwBytes E iv q).drop 8)) = (iv, chunks 8 q) := by
  have hflat := flatten_chunks (by decide : 8 ≠ 0) q
  have hall := chunks_all_len q h8
  have hn : 0 < (chunks 8 q).length := List.length_pos_iff.mpr (by intro e; rw [e] at hflat; simp [← hflat] at hq)
  obtain ⟨hinv, ha, hr, hrall⟩ := foldl_undo (fun s t => kw_step_inv h _ hn s t) (kwTicks (chunks 8 q).length) (iv, chunks 8 q) ⟨hiv, rfl, hall⟩
  rw [kwBytes, kwW]
  generalize List.foldl (kwStep E _) _ _ = w at *
  obtain ⟨a, r⟩ := w
  refine ⟨by rw [List.length_append, ha, length_flatten_const _ hrall, hr, ← length_flatten_const _ hall, hflat], ?_⟩
  rw [List.take_left' ha, List.drop_left' ha, chunks_flatten (by decide) _ hrall, kwWinv, hr, hinv]

theorem kwIV_length : kwIV.length = 8 := rfl

/-- **RFC 3394**: `unwrap (wrap P) = P` for every plaintext of n ≥ 2 64-bit blocks -/
theorem rfc3394_roundtrip {E D : Bytes → Bytes} (h : BlockInv E D) (p : Bytes) (h8 : p.length % 8 = 0) (h16 : 16 ≤ p.length) :
    rfc3394Unwrap D (rfc3394Wrap E p) = some p := by
  obtain ⟨hlen, hinv⟩ := kw_core h kwIV p kwIV_length h8 (by omega)
  have hc : ¬ ((kwBytes E kwIV p).length < 24 ∨ (kwBytes E kwIV p).length % 8 ≠ 0) := by omega
  -- `rfc3394Wrap E p` is `kwBytes E kwIV p` once the pair it matches on is eta-expanded
  show rfc3394Unwrap D (kwBytes E kwIV p) = some p
  simp [rfc3394Unwrap, hc, hinv, flatten_chunks (by decide : 8 ≠ 0) p]

theorem zeroPad8_length (p : Bytes) : (zeroPad8 p).length % 8 = 0 ∧ p.length ≤ (zeroPad8 p).length ∧ (zeroPad8 p).length < p.length + 8 := by
  simp only [zeroPad8, List.length_append, List.length_replicate]; omega

theorem nat32_decode (n : Nat) (h : n < 2 ^ 32) : (nat32Bytes n).foldl (fun acc b => acc * 256 + b.toNat) 0 = n := by
  simp only [nat32Bytes, List.foldl_cons, List.foldl_nil, UInt8.toNat_ofNat']
  omega

/-- the alternative initial value of RFC 5649 (section 3) for a key of `n` bytes: A65959A6 ‖ the length as 32 bits -/
def kwpAIV (n : Nat) : Bytes := [0xA6, 0x59, 0x59, 0xA6] ++ nat32Bytes n

/-- RFC 5649 section 4.2 step 3, which `rfc5649Unwrap` applies to the recovered A and padded key whichever way they were recovered: the fixed half of A,
    the length field within the last eight bytes of the padded key, zero padding after it -/
def kwpCheck (a body : Bytes) : Option Bytes :=
  if a.take 4 != [0xA6, 0x59, 0x59, 0xA6] then none else
  let mli := (a.drop 4).foldl (fun acc b => acc * 256 + b.toNat) 0
  if mli > body.length || mli + 8 ≤ body.length || mli == 0 then none
  else if (body.drop mli).all (· == 0) then some (body.take mli) else none

theorem kwpCheck_pad (p : Bytes) (h0 : 0 < p.length) (h32 : p.length < 2 ^ 32) : kwpCheck (kwpAIV p.length) (zeroPad8 p) = some p := by
  have ht : (kwpAIV p.length).take 4 = [0xA6, 0x59, 0x59, 0xA6] := rfl
  have hd : (kwpAIV p.length).drop 4 = nat32Bytes p.length := rfl
  simp only [kwpCheck, ht, hd, nat32_decode _ h32]
  simp [zeroPad8]
  exact ⟨by omega, by intro e; simp [e] at h0⟩

theorem rfc5649Wrap_eq (E : Bytes → Bytes) (p : Bytes) :
    rfc5649Wrap E p = if (zeroPad8 p).length = 8 then E (kwpAIV p.length ++ zeroPad8 p) else kwBytes E (kwpAIV p.length) (zeroPad8 p) := by
  simp only [rfc5649Wrap, beq_iff_eq]; rfl

theorem rfc5649Unwrap_eq (D : Bytes → Bytes) (c : Bytes) :
    rfc5649Unwrap D c = if c.length < 16 || c.length % 8 != 0 then none else
      if c.length == 16 then kwpCheck ((D c).take 8) ((D c).drop 8)
      else kwpCheck (kwWinv D (c.take 8) (chunks 8 (c.drop 8))).1 (kwWinv D (c.take 8) (chunks 8 (c.drop 8))).2.flatten := by
  unfold rfc5649Unwrap
  split
  · rfl
  · cases h16 : c.length == 16 <;> rfl

/-- **RFC 5649**: `unwrap (wrap P) = P` for every non-empty plaintext shorter than 2^32 bytes, over every block function with a left inverse on 16-byte blocks
    (the padded length, the alternative initial value with its length field, the one-block special case and the zero padding check included) -/
theorem rfc5649_roundtrip {E D : Bytes → Bytes} (h : BlockInv E D) (p : Bytes) (h0 : 0 < p.length) (h32 : p.length < 2 ^ 32) :
    rfc5649Unwrap D (rfc5649Wrap E p) = some p := by
  have hb := zeroPad8_length p
  rw [rfc5649Wrap_eq, rfc5649Unwrap_eq]
  split
  · -- one block: a single application of the block function
    next h8 =>
    have hin : (kwpAIV p.length ++ zeroPad8 p).length = 16 := by rw [List.length_append, h8]; rfl
    simp [h.len _ hin, h.inv _ hin, List.take_left' (show (kwpAIV p.length).length = 8 from rfl),
      List.drop_left' (show (kwpAIV p.length).length = 8 from rfl), kwpCheck_pad p h0 h32]
  · obtain ⟨hlen, hinv⟩ := kw_core h (kwpAIV p.length) (zeroPad8 p) rfl hb.1 (by omega)
    have hc : ¬ ((kwBytes E (kwpAIV p.length) (zeroPad8 p)).length < 16 ∨ (kwBytes E (kwpAIV p.length) (zeroPad8 p)).length % 8 ≠ 0) := by omega
    have hc2 : (kwBytes E (kwpAIV p.length) (zeroPad8 p)).length ≠ 16 := by omega
    simp [hc, hc2, hinv, flatten_chunks (by decide : 8 ≠ 0), kwpCheck_pad p h0 h32]

theorem rfc3394Unwrap_short (D : Bytes → Bytes) (c : Bytes) (h : c.length < 24) : rfc3394Unwrap D c = none := by
  simp [rfc3394Unwrap, h]

theorem rfc5649Unwrap_short (D : Bytes → Bytes) (c : Bytes) (h : c.length < 16) : rfc5649Unwrap D c = none := by
  simp [rfc5649Unwrap, h]

end Shm.Crypto
