/-
  Big-endian numerals: `beVal` is positional notation in base 256 (`beVal_append`), `beBytes k` writes the `k` low digits, and the 8-byte
  word of the object files (`be8`) is `beBytes 8`.
-/
import Shm.Pure.ByteStr
namespace Shm.Pure
open Shm.Store

theorem foldl_be (l : Bytes) (acc : Nat) :
    l.foldl (fun a (b : UInt8) => a * 256 + b.toNat) acc = acc * 256 ^ l.length + beVal l := by
  induction l generalizing acc with
  | nil => simp [beVal]
  | cons x r ih =>
    simp only [beVal, List.foldl_cons, List.length_cons, Nat.pow_succ] at ih ⊢
    rw [ih (acc * 256 + x.toNat), ih (0 * 256 + x.toNat), Nat.zero_mul, Nat.zero_add, Nat.add_mul, Nat.mul_assoc,
      Nat.mul_comm 256, Nat.add_assoc]

theorem beVal_append (xs ys : Bytes) : beVal (xs ++ ys) = beVal xs * 256 ^ ys.length + beVal ys := by
  rw [beVal, List.foldl_append, foldl_be]; rfl

theorem beVal_cons (x : UInt8) (r : Bytes) : beVal (x :: r) = x.toNat * 256 ^ r.length + beVal r := by
  simpa [beVal] using beVal_append [x] r

theorem beVal_lt (r : Bytes) : beVal r < 256 ^ r.length := by
  induction r with
  | nil => simp [beVal]
  | cons x r ih =>
    rw [beVal_cons, List.length_cons, Nat.pow_succ]
    calc x.toNat * 256 ^ r.length + beVal r < (x.toNat + 1) * 256 ^ r.length := by rw [Nat.add_mul]; omega
      _ ≤ 256 ^ r.length * 256 := by rw [Nat.mul_comm]; exact Nat.mul_le_mul_left _ x.toNat_lt

theorem beBytes_length (k n : Nat) : (beBytes k n).length = k := by
  induction k generalizing n with
  | zero => rfl
  | succ k ih => simp [beBytes, ih]

theorem beVal_beBytes (k n : Nat) : beVal (beBytes k n) = n % 256 ^ k := by
  induction k generalizing n with
  | zero => simp [beBytes, beVal, Nat.mod_one]
  | succ k ih =>
    rw [beBytes, beVal_append, ih, Nat.pow_succ, Nat.mul_comm (256 ^ k) 256, Nat.mod_mul]
    simp [beVal, Nat.add_comm, Nat.mul_comm]

end Shm.Pure

namespace Shm.Store
open Shm.Pure

theorem be8_eq_beBytes (n : Nat) : be8 n = beBytes 8 n := by
  simp [be8, beBytes, Nat.div_div_eq_div_mul]

theorem be8_length (n : Nat) : (be8 n).length = 8 := rfl

theorem beVal_be8 (n : Nat) (h : n < 2^64) : beVal (be8 n) = n := by
  rw [be8_eq_beBytes, beVal_beBytes]; exact Nat.mod_eq_of_lt h

end Shm.Store
