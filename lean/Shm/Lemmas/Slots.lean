/-
  The slot list: `findTok` under `setTok`, `logoutSlot`, `ensureFreeSlot` and logging every token out.
-/
import Shm.Model.Step
namespace Shm

theorem findSlot_id {ss : List Slot} {id : Nat} {sl : Slot} (h : findSlot ss id = some sl) : sl.id = id := by
  simpa using List.find?_some h

theorem findTok_map_tok (ss : List Slot) (f : Slot → Option Tok) (id : Nat) :
    findTok (ss.map fun sl => { sl with tok := f sl }) id = (findSlot ss id).bind f := by
  unfold findTok findSlot
  rw [List.find?_map, Option.bind_map]; rfl

/-- the token of slot `id` rewritten by `g`, the others kept (`setTok`, `logoutSlot`) -/
theorem findTok_map_at (ss : List Slot) (id : Nat) (g : Option Tok → Option Tok) (id' : Nat) :
    findTok (ss.map fun sl => if sl.id == id then { sl with tok := g sl.tok } else sl) id' =
      if id' = id then (findSlot ss id').bind (g ·.tok) else findTok ss id' := by
  have e : (fun sl : Slot => if sl.id == id then { sl with tok := g sl.tok } else sl) = fun sl => { sl with tok := if sl.id == id then g sl.tok else sl.tok } :=
    funext fun sl => by split <;> rfl
  rw [e, findTok_map_tok, findTok]
  cases hf : findSlot ss id' with
  | none => simp
  | some sl => simp only [Option.bind_some, findSlot_id hf, beq_iff_eq]

theorem findTok_setTok (ss : List Slot) (id : Nat) (t : Tok) (id' : Nat) :
    findTok (setTok ss id t) id' =
      if id' = id then (if (findSlot ss id').isSome then some t else none) else findTok ss id' := by
  rw [setTok, findTok_map_at ss id (fun _ => some t)]
  cases findSlot ss id' <;> rfl

theorem findTok_logoutSlot (ss : List Slot) (id : Nat) (id' : Nat) :
    findTok (logoutSlot ss id) id' =
      if id' = id then (findTok ss id').map Tok.logout else findTok ss id' := by
  rw [logoutSlot, findTok_map_at ss id (·.map Tok.logout), findTok]
  cases findSlot ss id' <;> rfl

theorem findTok_of_findSlot {ss : List Slot} {id : Nat} {sl : Slot} {t : Tok} (hsl : findSlot ss id = some sl) (ht : sl.tok = some t) :
    findTok ss id = some t := by
  rw [findTok, hsl, Option.bind_some, ht]

theorem findTok_some_findSlot {ss : List Slot} {id : Nat} {t : Tok} (h : findTok ss id = some t) :
    (findSlot ss id).isSome := by
  unfold findTok at h
  cases hf : findSlot ss id <;> simp_all

theorem findTok_mem {ss : List Slot} {id : Nat} {t : Tok} (h : findTok ss id = some t) :
    ∃ sl ∈ ss, sl.tok = some t := by
  unfold findTok findSlot at h
  cases hf : ss.find? (·.id == id) with
  | none => simp [hf] at h
  | some sl => exact ⟨sl, List.mem_of_find?_eq_some hf, by simpa [hf] using h⟩

/-- `C_GetSlotList` may add the next free slot: no token appears or changes -/
theorem findTok_ensureFreeSlot (ss : List Slot) (id : Nat) : findTok (ensureFreeSlot ss) id = findTok ss id := by
  unfold ensureFreeSlot
  split
  · rfl
  · dsimp only
    split
    · rfl
    · unfold findTok findSlot
      rw [List.find?_append]
      cases h : List.find? (fun x => x.id == id) ss with
      | some x => simp
      | none =>
        simp only [List.find?_cons]
        split <;> simp

theorem findTok_map_logout (ss : List Slot) (id : Nat) :
    findTok (ss.map fun sl => { sl with tok := sl.tok.map Tok.logout }) id = (findTok ss id).map Tok.logout := by
  rw [findTok_map_tok, findTok]
  cases findSlot ss id <;> rfl

/-- the slot C_Initialize puts a token in: computed from its serial number, nobody logged in -/
def reslot (t : Tok) : Slot := { id := slotIdOfSerial t.serial, tok := some { t with soIn := false, userIn := false } }

/-- every token of the store re-slotted, then at most one free slot -/
theorem stepInitialize_slots (s : State) (hi : s.initialised = false) :
    ∃ free : List Slot, (stepInitialize s).1.slots = s.slots.filterMap (fun sl => sl.tok.map reslot) ++ free ∧ ∀ sl ∈ free, sl.tok = none := by
  unfold stepInitialize
  simp only [hi, Bool.false_eq_true, if_false]
  split
  · exact ⟨[], (List.append_nil _).symm, nofun⟩
  · exact ⟨[_], rfl, fun sl h => by rw [List.mem_singleton.mp h]⟩

theorem mem_stepInitialize_slots {s : State} (hi : s.initialised = false) {sl' : Slot} {t' : Tok}
    (hm : sl' ∈ (stepInitialize s).1.slots) (ht' : sl'.tok = some t') :
    ∃ sl ∈ s.slots, ∃ t, sl.tok = some t ∧ sl' = reslot t := by
  obtain ⟨free, he, hfree⟩ := stepInitialize_slots s hi
  rw [he] at hm
  rcases List.mem_append.mp hm with h | h
  · obtain ⟨sl, hsl, hs⟩ := List.mem_filterMap.mp h
    obtain ⟨t, ht, rfl⟩ := Option.map_eq_some_iff.mp hs
    exact ⟨sl, hsl, t, ht, rfl⟩
  · rw [hfree _ h] at ht'; cases ht'

end Shm
