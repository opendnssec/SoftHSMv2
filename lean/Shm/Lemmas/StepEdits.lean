/-
  Which changes each call of Step.lean makes, in the vocabulary of `Lemmas/Edits.lean`: one walk through the step functions
  (`step_edits`), with `FailFrame`: what a call that fails may change.
-/
import Shm.Lemmas.Edits
namespace Shm

/-- the calls that can change a PIN -/
def Call.isPinCall : Call → Bool
  | .initToken .. | .initPin .. | .setPin .. | .initLib => true
  | _ => false

/-- the calls that can change who is logged in -/
def Call.changesLogin : Call → Bool
  | .initToken .. | .closeSession _ | .closeAll _ | .login .. | .logout _ | .initLib | .finiLib => true
  | _ => false

/-- the call that adds a session to the handle table -/
def Call.opensSession : Call → Bool
  | .openSession .. => true
  | _ => false

/-- the object a C_SetAttributeValue call may change -/
def setAttrTarget (s : State) : Call → Option Nat
  | .setAttr _ o _ _ => (resolveObj s o).map (·.2.oid)
  | _ => none

/-- the calls that invalidate handles -/
def C11.isPurging : Call → Bool
  | .initLib | .finiLib | .closeSession _ | .closeAll _ | .logout _ | .destroy _ _ => true
  | _ => false

/-- the slot a call is addressed to: the slot of its session, or its slot argument -/
def C14.slotOfCall (s : State) : Call → Option Nat
  | .initToken slot .. => some slot
  | .openSession slot _ => some slot
  | .closeAll slot => some slot
  | .closeSession h | .sessInfo h | .login h _ _ | .logout h | .initPin h _ | .setPin h _ _ | .create h _ _ | .destroy h _ | .objProbe h _
  | .getAttr h _ _ _ | .setAttr h _ _ _ | .copy h _ _ _ | .objSize h _ | .findInit h _ _ | .find h _ | .findFinal h =>
      (s.handles.getSess h).map (·.slot)
  | _ => none

theorem classOfAttrs_mem {o : Attrs} {cd : ClassDesc} (h : classOfAttrs o = some cd) : cd ∈ Gen.classTable := findClass_mem h

/-- postCreate only writes booleans -/
theorem encOK_postCreate {p : Bool} {a : Attrs} (h : EncOK p a) (cls : Nat) : EncOK p (postCreate cls a) := by
  unfold postCreate
  split
  · exact encOK_setA h _ (.bool false) trivial
  · split
    · exact encOK_setA (encOK_setA (encOK_setA h _ (.bool false) trivial) _ (.bool false) trivial) _ (.bool false) trivial
    · exact h

theorem encOK_copyAttrs {wasPriv isPriv : Bool} {o : Attrs} (h : EncOK wasPriv o) (hdown : ¬(wasPriv = true ∧ isPriv = false)) :
    EncOK isPriv (copyAttrs o wasPriv isPriv) := by
  intro ty v enc hm hne
  simp only [copyAttrs, List.mem_map] at hm
  obtain ⟨e, hme, he⟩ := hm
  obtain ⟨t, x⟩ := e
  cases x with
  | bytes b en =>
    simp only [reEnc, Prod.mk.injEq, AVal.bytes.injEq] at he
    obtain ⟨_, hb, hen⟩ := he
    subst hb
    have h0 := h t b en hme hne
    have hemp : b.isEmpty = false := by cases b <;> simp_all
    cases wasPriv <;> cases isPriv <;> simp_all
  | bool _ => simp [reEnc] at he
  | ulong _ => simp [reEnc] at he
  | mechs _ => simp [reEnc] at he
  | amap _ => simp [reEnc] at he
  | unk => simp [reEnc] at he

/-- C_CopyObject: the copy starts from the (re-flagged) attributes of an object of the state -/
theorem stored_copy {s : State} {o : Nat} {oh : ObjH} {ob : Obj} {cd : ClassDesc} {tpl : Template} {p so : Bool} {rv : RV} {a : Attrs}
    (hres : resolveObj s o = some (oh, ob)) (hcd : classOfAttrs ob.attrs = some cd) (hdown : ¬(ob.isPriv && !p) = true)
    (hst : saveTemplate cd (copyAttrs ob.attrs ob.isPriv p) tpl OP.COPY p so rv = .ok a) : Stored s p a := fun hi _ =>
  saveTemplate_enc _ _ _ _ _ _ _ (class_ok (classOfAttrs_mem hcd)).1
    (encOK_copyAttrs (hi ob (resolveObj_mem hres)) fun ⟨h1, h2⟩ => hdown (by rw [h1, h2]; rfl)) _ hst

/-- C_SetAttributeValue: unique identities say that the object updated is the object resolved -/
theorem stored_setAttr {s : State} {o : Nat} {oh : ObjH} {ob : Obj} {cd : ClassDesc} {tpl : Template} {op : Nat} {so : Bool} {rv : RV} {a : Attrs}
    (hres : resolveObj s o = some (oh, ob)) (hcd : classOfAttrs ob.attrs = some cd)
    (hst : saveTemplate cd ob.attrs tpl op ob.isPriv so rv = .ok a) : ∀ o' ∈ s.objs, o'.oid = ob.oid → Stored s o'.isPriv a := fun o' ho' he hi hn => by
  rw [unique_of_nodup hn ho' (resolveObj_mem hres) he]
  exact saveTemplate_enc _ _ _ _ _ _ _ (class_ok (classOfAttrs_mem hcd)).1 (hi ob (resolveObj_mem hres)) _ hst

/-- the calls that check a PIN -/
def Call.takesPin : Call → Bool
  | .initToken .. | .login .. | .setPin .. => true
  | _ => false

/-- of the result `r` of a call in state `s`: if it failed, nothing changed, except that a wrong PIN (`pin`: the call checks one) sets
    the PIN-count-low flag of the token -/
def FailFrame (pin : Bool) (s : State) (r : State × Resp) : Prop :=
  r.2.rv ≠ CKR.OK → r.1 = s ∨ (pin = true ∧ ∃ id t, findTok s.slots id = some t ∧
    (r.1 = { s with slots := setTok s.slots id { t with soLow := true } } ∨ r.1 = { s with slots := setTok s.slots id { t with userLow := true } }))

theorem ff_same (pin : Bool) (s : State) (r : Resp) : FailFrame pin s (s, r) := fun _ => Or.inl rfl
theorem ff_ok {pin : Bool} {s s' : State} {r : Resp} (h : r.rv = CKR.OK) : FailFrame pin s (s', r) := fun hf => absurd h hf
theorem ff_soLow {s : State} {id : Nat} {t : Tok} (ht : findTok s.slots id = some t) (r : Resp) :
    FailFrame true s ({ s with slots := setTok s.slots id { t with soLow := true } }, r) := fun _ => Or.inr ⟨rfl, id, t, ht, Or.inl rfl⟩
theorem ff_userLow {s : State} {id : Nat} {t : Tok} (ht : findTok s.slots id = some t) (r : Resp) :
    FailFrame true s ({ s with slots := setTok s.slots id { t with userLow := true } }, r) := fun _ => Or.inr ⟨rfl, id, t, ht, Or.inr rfl⟩

theorem FailFrame.edit {pin : Bool} {s : State} {r : State × Resp} (h : FailFrame pin s r) (hf : r.2.rv ≠ CKR.OK) :
    r.1.handles = s.handles ∧ r.1.objs = s.objs ∧ ∃ a, SlotEdit a false false s.slots r.1.slots := by
  rcases h hf with e | ⟨_, id, t, ht, e | e⟩ <;> rw [e]
  · exact ⟨rfl, rfl, none, .keep⟩
  all_goals exact ⟨rfl, rfl, some id, .setTok id _ rfl (fun _ => ⟨t, ht, rfl, rfl⟩) fun _ => ⟨t, ht, rfl, rfl⟩⟩

/-- everything a call other than C_Initialize / C_Finalize does: `r` is its result in state `s` -/
structure Edits (c : Call) (s : State) (r : State × Resp) : Prop where
  objs : ObjsEdit (Stored s) (setAttrTarget s c) s r.1
  table : TableEdit (C11.isPurging c) c.opensSession s.handles s.counter r.1.handles r.1.counter
  slots : SlotEdit (C14.slotOfCall s c) c.isPinCall c.changesLogin s.slots r.1.slots
  fail : FailFrame c.takesPin s r

theorem Edits.same (c : Call) (s : State) (x : Resp) : Edits c s (s, x) := ⟨.keep rfl rfl, .keep _ _, .keep, ff_same _ s x⟩

/- In the walk below a leaf of an unfolded step function is a state written as `{ s with … }` (or `s`) beside a response, and each
   call names, field by field, the constructor its leaf has the shape of.  The two macros close the slot field and the failure field
   where they depend on what the `split`s put into the context (`‹_›`).  Proofs given as `by rfl` and not `rfl`: a term `rfl` is
   elaborated before `‹_›` and would fix the metavariables the assumption should supply. -/
macro "slots_leaf" : tactic =>
  `(tactic| first
      | exact .keep
      | exact .logout _ (by simp only [C14.slotOfCall, *, Option.map_some]) (by rfl)
      | exact .setTok _ _ (by simp only [C14.slotOfCall, *, Option.map_some])
          (by first | exact fun _ => ⟨_, ‹_›, by rfl, by rfl⟩ | exact nofun) (by first | exact fun _ => ⟨_, ‹_›, by rfl, by rfl⟩ | exact nofun))

macro "ff_leaf" : tactic =>
  `(tactic| first | exact ff_same _ _ _ | exact ff_ok rfl | exact ff_soLow ‹_› _ | exact ff_userLow ‹_› _)

theorem step_edits (s : State) (c : Call) (h1 : c ≠ .initLib) (h2 : c ≠ .finiLib) : Edits c s (step s c) := by
  cases c <;> simp only [step, guardInit] <;> try contradiction
  all_goals refine ite_ind (fun _ => Edits.same _ _ _) fun _ => ?_
  case slots => exact ⟨.keep rfl rfl, .keep _ _, .free, ff_ok rfl⟩
  case initToken slot _ _ _ _ =>
    unfold stepInitToken
    split
    · exact Edits.same _ _ _
    next sl hsl =>
      step_cases <;> first
        | exact Edits.same _ _ _
        | exact ⟨.keep rfl rfl, .keep _ _, by slots_leaf, ff_ok rfl⟩
        | exact ⟨.sub (ObjsSub.filter _ _) rfl, .keep _ _, by slots_leaf, ff_ok rfl⟩
        | exact ⟨.keep rfl rfl, .keep _ _, by slots_leaf, ff_soLow (findTok_of_findSlot hsl ‹_›) _⟩
  case openSession =>
    unfold stepOpenSession; step_cases <;> first | exact Edits.same _ _ _ | exact ⟨.keep rfl rfl, .append _ _ _ nofun, .keep, ff_ok rfl⟩
  case closeSession =>
    unfold stepCloseSession; step_cases <;> first
      | exact Edits.same _ _ _
      | exact ⟨.sub (ObjsSub.filter _ _) rfl, .sessionClosed rfl _ _ _, by slots_leaf, ff_ok rfl⟩
  case closeAll =>
    unfold stepCloseAll; step_cases <;> first
      | exact Edits.same _ _ _
      | exact ⟨.sub (ObjsSub.filter _ _) rfl, .allSessionsClosed rfl _ _ _, by slots_leaf, ff_ok rfl⟩
  case sessInfo => unfold stepSessInfo; step_cases <;> exact Edits.same _ _ _
  case login =>
    unfold stepLogin; step_cases <;> first
      | exact Edits.same _ _ _
      | exact ⟨.keep rfl rfl, .keep _ _, by slots_leaf, by ff_leaf⟩
      | exact ⟨.keep rfl rfl, .setSess _ _ _ _ _ ‹_› (by rfl) (by rfl), by slots_leaf, ff_ok rfl⟩
  case logout =>
    unfold stepLogout; step_cases <;> first
      | exact Edits.same _ _ _
      | exact ⟨.sub (ObjsSub.filter _ _) rfl, .tokenLoggedOut rfl _ _ _, by slots_leaf, ff_ok rfl⟩
  case initPin =>
    unfold stepInitPin; step_cases <;> first | exact Edits.same _ _ _ | exact ⟨.keep rfl rfl, .keep _ _, by slots_leaf, ff_ok rfl⟩
  case setPin =>
    unfold stepSetPin; step_cases <;> first | exact Edits.same _ _ _ | exact ⟨.keep rfl rfl, .keep _ _, by slots_leaf, by ff_leaf⟩
  case create =>
    unfold stepCreate; step_cases <;> first
      | exact Edits.same _ _ _
      | exact ⟨.add _ _ _ _ _ _ fun _ _ => encOK_postCreate (encOK_saved ‹_› ‹_›) _, .append _ _ _ (fun _ => rfl), .keep, ff_ok rfl⟩
  case destroy =>
    unfold stepDestroy; step_cases <;> first
      | exact Edits.same _ _ _
      | exact ⟨.sub (ObjsSub.filter _ _) rfl, .destroyObject rfl _ _ _, .keep, ff_ok rfl⟩
  case objProbe => unfold stepObjProbe; step_cases <;> exact Edits.same _ _ _
  case getAttr => unfold stepGetAttr; step_cases <;> exact Edits.same _ _ _
  case setAttr =>
    unfold stepSetAttr; step_cases <;> first
      | exact Edits.same _ _ _
      | exact ⟨.upd _ _ (by simp only [setAttrTarget, *, Option.map_some]) (stored_setAttr ‹_› ‹_› ‹_›) rfl rfl, .keep _ _, .keep, ff_ok rfl⟩
  case copy =>
    unfold stepCopy; step_cases <;> first
      | exact Edits.same _ _ _
      | exact ⟨.add _ _ _ _ _ _ (stored_copy ‹_› ‹_› ‹_› ‹_›), .append _ _ _ (fun _ => rfl), .keep, ff_ok rfl⟩
  case objSize => unfold stepObjSize; step_cases <;> exact Edits.same _ _ _
  case findInit =>
    -- handles are minted for the objects found that had none, then the session record takes the result list
    unfold stepFindInit; step_cases <;> first
      | exact Edits.same _ _ _
      | exact ⟨.keep rfl rfl, .trans (.mintAll _ _ _ _ _) (.setSess _ _ _ _ _ (getSess_mintAll (sessTok_getSess ‹_›) _ _ _ _) (by rfl) (by rfl)),
          .keep, ff_ok rfl⟩
  case find =>
    unfold stepFind; step_cases <;> first | exact Edits.same _ _ _ | exact ⟨.keep rfl rfl, .setSess _ _ _ _ _ ‹_› (by rfl) (by rfl), .keep, ff_ok rfl⟩
  case findFinal =>
    unfold stepFindFinal; step_cases <;> first | exact Edits.same _ _ _ | exact ⟨.keep rfl rfl, .setSess _ _ _ _ _ ‹_› (by rfl) (by rfl), .keep, ff_ok rfl⟩

theorem initialize_objs {R : Bool → Attrs → Prop} {e : Option Nat} (s : State) : ObjsEdit R e s (stepInitialize s).1 := by
  unfold stepInitialize
  split
  · exact .keep rfl rfl
  · exact .sub (ObjsSub.map_filter _ _ _ fun o => by split <;> rfl) rfl

theorem finalize_objs {R : Bool → Attrs → Prop} {e : Option Nat} (s : State) : ObjsEdit R e s (stepFinalize s).1 := by
  unfold stepFinalize
  split
  · exact .keep rfl rfl
  · exact .sub (ObjsSub.filter _ _) rfl

theorem step_objs (s : State) (c : Call) : ObjsEdit (Stored s) (setAttrTarget s c) s (step s c).1 := by
  by_cases h1 : c = .initLib
  · subst h1; exact initialize_objs s
  by_cases h2 : c = .finiLib
  · subst h2; exact finalize_objs s
  exact (step_edits s c h1 h2).objs

theorem step_failFrame (s : State) (c : Call) : FailFrame c.takesPin s (step s c) := by
  by_cases h1 : c = .initLib
  · subst h1; simp only [step]; unfold stepInitialize; split <;> first | exact ff_same _ _ _ | exact ff_ok rfl
  by_cases h2 : c = .finiLib
  · subst h2; simp only [step]; unfold stepFinalize; split <;> first | exact ff_same _ _ _ | exact ff_ok rfl
  exact (step_edits s c h1 h2).fail

theorem wf_step (s : State) (c : Call) (h : s.WF) : (step s c).1.WF := by
  by_cases h1 : c = .initLib
  · subst h1; simp only [step]; unfold stepInitialize; split <;> first | exact h | exact wf_nil 0
  by_cases h2 : c = .finiLib
  · subst h2; simp only [step]; unfold stepFinalize; split <;> first | exact h | exact wf_nil 0
  exact (step_edits s c h1 h2).table.wf h

theorem wf_run (s : State) (cs : List Call) (h : s.WF) : (run s cs).WF := foldl_inv cs (fun s c _ => wf_step s c) h

end Shm
