/-
  Programs that can never report success (used for the history attributes, which no caller may supply).
-/
import Shm.Lemmas.ProgAll
namespace Shm

/-- syntactic check: every `return` carries an error code and the generic store is never called -/
def noOk : UProg → Bool := progAll (fun _ => true) (· != CKR.OK) false

/-- the attribute can never be updated successfully, whatever the operation and the value -/
def attrNeverOk (d : AttrDesc) : Bool :=
  match d.upd with
  | .prog p => noOk p
  | _ => false

theorem attrNeverOk_sound (d : AttrDesc) (h : attrNeverOk d = true) (t : TEntry) (op : Nat) (p so : Bool) (o : Attrs) (oRv : RV) :
    (updateAttribute d t op p so o oRv).1 ≠ CKR.OK := by
  rcases updateAttribute_eq d t op p so o oRv with he | ⟨hne, _⟩
  · rw [he]
    unfold attrNeverOk at h
    split at h
    · rename_i q hq
      have := runProg_all (mkEnv d t op p so) (I := fun _ => True) (fun _ _ _ _ => trivial) q o h trivial
      rw [hq, runUpdateAttr_prog]
      cases hr : runProg (mkEnv d t op p so) q o <;> rw [hr] at this <;>
        first | exact bne_iff_ne.mp this.1 | cases this.1 | exact (by decide : CKR.GENERAL_ERROR ≠ CKR.OK)
    · cases h
  · exact hne

/-- a template containing an entry whose attribute can never be updated is rejected: every entry of an accepted template
    was applied with success -/
theorem saveTemplate_rejects (cd : ClassDesc) (op : Nat) (p so : Bool) (oRv : RV) (bad : Nat → Bool)
    (hbad : ∀ d ∈ cd.attrs, bad d.ty = true → attrNeverOk d = true)
    (tpl : Template) (o : Attrs) (h : ∃ e ∈ tpl, bad e.ty = true) :
    ∃ rv, saveTemplate cd o tpl op p so oRv = .error rv := by
  cases hs : saveTemplate cd o tpl op p so oRv with
  | error rv => exact ⟨rv, rfl⟩
  | ok o' =>
    obtain ⟨e, he, hb⟩ := h
    have := (applyEntries_ok (I := fun _ => True) (E := fun t => bad t.ty = false)
      (fun d hd t o1 _ hty _ hu => ⟨trivial, by
        cases hi : bad t.ty with
        | false => rfl
        | true => exact absurd (congrArg Prod.fst hu) (attrNeverOk_sound d (hbad d hd (hty ▸ hi)) t op p so o1 oRv)⟩)
      tpl o o' trivial (saveTemplate_ok hs)).2 e he
    rw [hb] at this; cases this

end Shm
