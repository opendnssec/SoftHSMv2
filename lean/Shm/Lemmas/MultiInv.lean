/-
  Several processes on one token directory: object identities stay unique across ALL interleavings (C15).

  The invariant `MInv` of the multi-process machine (Shm/Model/Multi.lean): in the running process and in every parked one object identities are pairwise distinct and
  below the allocation counter the running process holds; and the identity of a session object of one process occurs in no other process.  It holds initially and is
  kept by every hand-over (`MState.switch`: adopt / spawn) and by every call (`MState.step`) — whatever the calls, whatever the interleaving.
  A call changes the running state as `Evolves` says (`Parked.evolves`); both kinds of hand-over produce a state that `Handover` describes (`minv_handover`).
-/
import Shm.Model.Multi
import Shm.Lemmas.Runs
namespace Shm

/-- no session object of `a` shares its identity with any object of `b` -/
def Apart (a b : State) : Prop := ∀ o ∈ a.objs, o.onToken = false → ∀ o' ∈ b.objs, o'.oid ≠ o.oid

structure Parked (q p : State) : Prop where
  below : ∀ o ∈ q.objs, o.oid < p.nextOid
  ctr : q.nextOid ≤ p.nextOid
  nodup : OidNodup q
  out : Apart q p
  inn : Apart p q

structure MInv (m : MState) : Prop where
  inv : OidInv m.st
  nodup : OidNodup m.st
  parked : ∀ e ∈ m.procs, Parked e.2 m.st
  apart : ∀ e1 ∈ m.procs, ∀ e2 ∈ m.procs, e1.1 ≠ e2.1 → Apart e1.2 e2.2

theorem carry_eq {q p : State} {o o' : Obj} (h : carry q p o = some o') : o' = { o with slot := o'.slot } := by
  unfold carry at h
  cases hs : slotIn q p o.slot with
  | none => simp [hs] at h
  | some id => simp [hs] at h; subst h; rfl

/-- what is known of a parked process stays true while the running one makes calls: the running process's old objects keep identity and nature, its new
    ones get identities the parked process has never seen -/
theorem Parked.evolves {q p p' : State} (pk : Parked q p) (ev : Evolves p p') : Parked q p' where
  below o ho := Nat.lt_of_lt_of_le (pk.below o ho) ev.1
  ctr := Nat.le_trans pk.ctr ev.1
  nodup := pk.nodup
  out o ho hs o' ho' := by
    rcases ev.2 o' ho' with ⟨o0, h0, e1, _⟩ | ⟨h1, _⟩
    · rw [← e1]; exact pk.out o ho hs o0 h0
    · have := pk.below o ho; omega
  inn o ho hs o' ho' := by
    rcases ev.2 o ho with ⟨o0, h0, e1, e2, _⟩ | ⟨h1, _⟩
    · rw [← e1]; exact pk.inn o0 h0 (e2.trans hs) o' ho'
    · have := pk.below o' ho'; omega

theorem minv_call (m : MState) (c : AnyCall) (h : MInv m) : MInv { m with st := (stepAny m.st c).1 } :=
  have ev := evolves_stepAny m.st c
  ⟨oidInv_of_evolves h.inv ev, nodupStep_stepAny m.st c h.inv h.nodup, fun e he => (h.parked e he).evolves ev, h.apart⟩

/-- the state `t` in which a process goes on after `p` ran: its token objects are `p`'s (same identities), its session objects are those of `q`
    (its own parked state; `{}` for a process that starts now) -/
structure Handover (q p t : State) : Prop where
  ctr : p.nextOid ≤ t.nextOid
  objs : ∀ o ∈ t.objs, (∃ o0 ∈ p.objs, o0.onToken = true ∧ o.oid = o0.oid ∧ o.onToken = true) ∨ (o ∈ q.objs ∧ o.onToken = false)

theorem adopt_handover (q p : State) : Handover q p (adopt q p) where
  ctr := Nat.le_max_right _ _
  objs o ho := by
    simp only [adopt, List.mem_append, List.mem_filterMap, List.mem_filter] at ho
    rcases ho with ⟨o0, ⟨h0, ht⟩, hc⟩ | ⟨h0, ht⟩
    · rw [carry_eq hc]; exact Or.inl ⟨o0, h0, ht, rfl, ht⟩
    · exact Or.inr ⟨h0, by simpa using ht⟩

theorem spawn_handover (p : State) : Handover {} p (spawn p) where
  ctr := Nat.le_refl _
  objs o ho := by
    have := List.mem_filter.mp (show o ∈ p.objs.filter (·.onToken) from ho)
    exact Or.inl ⟨o, this.1, this.2, rfl, this.2⟩

theorem Handover.inv {q p t : State} (hh : Handover q p t) (hp : OidInv p) (hq : ∀ o ∈ q.objs, o.oid < p.nextOid) : OidInv t := by
  intro o ho
  rcases hh.objs o ho with ⟨o0, h0, _, he, _⟩ | ⟨h0, _⟩
  · rw [he]; exact Nat.lt_of_lt_of_le (hp o0 h0) hh.ctr
  · exact Nat.lt_of_lt_of_le (hq o h0) hh.ctr

theorem Handover.parked {q p t x : State} (hh : Handover q p t) (hb : ∀ o ∈ x.objs, o.oid < p.nextOid) (hc : x.nextOid ≤ p.nextOid) (hn : OidNodup x)
    (hp : ∀ o ∈ x.objs, o.onToken = false → ∀ o0 ∈ p.objs, o0.onToken = true → o0.oid ≠ o.oid) (hxq : Apart x q) (hqx : Apart q x) : Parked x t where
  below o ho := Nat.lt_of_lt_of_le (hb o ho) hh.ctr
  ctr := Nat.le_trans hc hh.ctr
  nodup := hn
  out o ho hs o' ho' := by
    rcases hh.objs o' ho' with ⟨o0, h0, ht, he, _⟩ | ⟨h0, _⟩
    · rw [he]; exact hp o ho hs o0 h0 ht
    · exact hxq o ho hs o' h0
  inn o ho hs o' ho' := by
    rcases hh.objs o ho with ⟨_, _, _, _, ht⟩ | ⟨h0, _⟩
    · rw [ht] at hs; cases hs
    · exact hqx o h0 hs o' ho'

/-- **every hand-over keeps the invariant**: process `i` goes on in a state `t` made of the token objects of the process that ran and the session objects of `q`,
    where `q` is apart from the process that ran and from every parked process other than `i` -/
theorem minv_handover {m : MState} (h : MInv m) (i : Nat) {q t : State} (hh : Handover q m.st t) (hnd : OidNodup t)
    (hb : ∀ o ∈ q.objs, o.oid < m.st.nextOid) (hsq : Apart m.st q) (hqs : Apart q m.st)
    (hq : ∀ e ∈ m.procs, e.1 ≠ i → Apart e.2 q ∧ Apart q e.2) :
    MInv { procs := (m.cur, m.st) :: m.procs.filter (·.1 != i), cur := i, st := t } := by
  have hmemf : ∀ e', e' ∈ m.procs.filter (fun e => e.1 != i) → e' ∈ m.procs ∧ e'.1 ≠ i := by
    intro e' he'; rw [List.mem_filter] at he'; exact ⟨he'.1, by simpa using he'.2⟩
  refine ⟨hh.inv h.inv hb, hnd, fun e' he' => ?_, fun e1 h1 e2 h2 hne => ?_⟩
  · rcases List.mem_cons.mp he' with rfl | he'
    · -- the process that ran: a session object and a token object of one state with unique identities are two objects
      refine hh.parked h.inv (Nat.le_refl _) h.nodup (fun o ho hs o0 h0 ht heq => ?_) hsq hqs
      rw [unique_of_nodup h.nodup h0 ho heq, hs] at ht; cases ht
    · obtain ⟨hm', hne'⟩ := hmemf e' he'
      have pk := h.parked e' hm'
      exact hh.parked pk.below pk.ctr pk.nodup (fun o ho hs o0 h0 _ => pk.out o ho hs o0 h0) (hq e' hm' hne').1 (hq e' hm' hne').2
  · rcases List.mem_cons.mp h1 with rfl | h1 <;> rcases List.mem_cons.mp h2 with rfl | h2
    · exact absurd rfl hne
    · exact (h.parked e2 (hmemf e2 h2).1).inn
    · exact (h.parked e1 (hmemf e1 h1).1).out
    · exact h.apart e1 (hmemf e1 h1).1 e2 (hmemf e2 h2).1 hne

theorem filterMap_carry_oids_sublist (q p : State) : ∀ (l : List Obj), ((l.filterMap (carry q p)).map (·.oid)).Sublist (l.map (·.oid)) := by
  intro l
  induction l with
  | nil => exact List.Sublist.refl _
  | cons o os ih =>
    simp only [List.filterMap_cons, List.map_cons]
    cases hc : carry q p o with
    | none => exact List.Sublist.cons _ ih
    | some o' =>
      rw [carry_eq hc]
      exact List.Sublist.cons_cons _ ih

theorem nodup_adopt (q p : State) (hp : OidNodup p) (hq : OidNodup q) (hout : Apart q p) : OidNodup (adopt q p) := by
  unfold OidNodup adopt
  rw [List.map_append, List.nodup_append]
  refine ⟨hp.sublist ((filterMap_carry_oids_sublist q p _).trans (List.filter_sublist.map _)), hq.sublist (List.filter_sublist.map _), ?_⟩
  intro a ha b hb hab
  obtain ⟨oa, hoa, rfl⟩ := List.mem_map.mp ha
  obtain ⟨ob, hob, rfl⟩ := List.mem_map.mp hb
  obtain ⟨o0, h0, hc⟩ := List.mem_filterMap.mp hoa
  rw [List.mem_filter] at h0 hob
  rw [carry_eq hc] at hab
  exact hout ob hob.1 (by simpa using hob.2) o0 h0.1 hab

theorem mlookup_mem (m : MState) (i : Nat) (q : State) (h : m.lookup i = some q) : ∃ e ∈ m.procs, e.1 = i ∧ e.2 = q := by
  unfold MState.lookup at h
  cases hf : m.procs.find? (·.1 == i) with
  | none => simp [hf] at h
  | some e =>
    simp only [hf, Option.map_some, Option.some.injEq] at h
    exact ⟨e, List.mem_of_find?_eq_some hf, by simpa using List.find?_some hf, h⟩

theorem minv_switch (m : MState) (i : Nat) (h : MInv m) : MInv (m.switch i) := by
  unfold MState.switch
  split
  · exact h
  cases hl : m.lookup i with
  | some q =>
    obtain ⟨e, he, rfl, rfl⟩ := mlookup_mem m i q hl
    have pk := h.parked e he
    exact minv_handover h e.1 (adopt_handover e.2 m.st) (nodup_adopt e.2 m.st h.nodup pk.nodup pk.out) pk.below pk.inn pk.out
      fun e' he' hne => ⟨h.apart e' he' e he hne, h.apart e he e' he' (Ne.symm hne)⟩
  | none =>
    -- a process that starts now has no session objects
    have l (x : State) : Apart {} x := fun _ ho => nomatch ho
    have r (x : State) : Apart x {} := fun _ _ _ _ ho => nomatch ho
    exact minv_handover h i (spawn_handover m.st) (h.nodup.sublist (List.filter_sublist.map _)) (fun _ ho => nomatch ho) (r _) (l _)
      fun _ _ _ => ⟨r _, l _⟩

theorem minv_step (m : MState) (i : Nat) (c : AnyCall) (h : MInv m) : MInv (m.step i c).1 :=
  minv_call (m.switch i) c (minv_switch m i h)

theorem minv_init : MInv {} := ⟨fun o ho => by simp at ho, by simp [OidNodup], fun e he => by simp at he, fun e he => by simp at he⟩

/-- any interleaving of calls of any number of processes -/
def mrun (m : MState) (steps : List (Nat × AnyCall)) : MState := steps.foldl (fun m sc => (m.step sc.1 sc.2).1) m

theorem minv_run (steps : List (Nat × AnyCall)) : ∀ m, MInv m → MInv (mrun m steps) := fun _ =>
  foldl_inv steps fun m sc _ => minv_step m sc.1 sc.2

end Shm
