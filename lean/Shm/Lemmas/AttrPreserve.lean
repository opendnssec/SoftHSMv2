/-
  One-way booleans: a decidable check on an attribute descriptor implies that applying ANY template entry to it keeps the
  tracked boolean attribute `T` at `goal` whenever the update succeeds, lifted to `saveTemplate` and to the class table.
  The check is split by the footprint of the update: most descriptors cannot write `T` at all (`runUpdateAttr_frame`);
  only for the attribute `T` itself, and for a program with an action on `T`, is the program interpreted (`safe`).
-/
import Shm.Lemmas.AbsInt
namespace Shm

/-- may `updateAttr` of kind `k`, run for the attribute `self`, write the attribute `T`?  The side effects of the named idioms
    are those of `runUpdateAttr`; a body the translator did not recognise may write anything. -/
def kindWrites (k : UKind) (self T : Nat) : Bool :=
  self == T ||
  match k with
  | .prog p => !progAll (fun a => actTy self a != T) (fun _ => true) true p
  | .value => T == 0x161 || T == 0x160 || T == CKA.CHECK_VALUE
  | .bytesEncModulus => T == 0x121
  | .bytesEncPrime => T == 0x133
  | .unknown => true
  | _ => false

theorem runUpdateAttr_frame (k : UKind) (e : UEnv) (n : Option (List (Nat × Option Bytes × Nat))) (o : Attrs) (oRv : RV) (T : Nat)
    (h : kindWrites k e.selfTy T = false) : getA (runUpdateAttr k e n o oRv).2 T = getA o T := by
  simp only [kindWrites, Bool.or_eq_false_iff, beq_eq_false_iff_ne, ne_eq] at h
  obtain ⟨hs, hk⟩ := h
  have hs' : T ≠ e.selfTy := fun hh => hs hh.symm
  cases k with
  | prog p =>
    have := runProg_all e (I := fun o' => getA o' T = getA o T)
      (fun a o' ha hI => by rw [doAct_eq, getA_setA_other _ _ _ _ (fun hh => bne_iff_ne.mp ha hh.symm), hI]) p o (by simpa using hk) rfl
    rw [runUpdateAttr_prog]
    cases hr : runProg e p o <;> rw [hr] at this <;> (simp only [getA_setA_other _ _ _ _ hs']; exact this.2)
  | value =>
    simp only [Bool.or_eq_false_iff, beq_eq_false_iff_ne, ne_eq] at hk
    simp only [runUpdateAttr, getA_ite, getA_setA_other _ _ _ _ hs', getA_setA_other _ _ _ _ hk.1.1,
      getA_setA_other _ _ _ _ hk.1.2, getA_setA_other _ _ _ _ hk.2, ite_self]
  | bytesEncModulus | bytesEncPrime =>
    simp only [beq_eq_false_iff_ne, ne_eq] at hk
    simp only [runUpdateAttr, getA_ite, getA_setA_other _ _ _ _ hs', getA_setA_other _ _ _ _ hk, ite_self]
  | unknown => cases hk
  | _ =>
    simp only [runUpdateAttr]
    repeat' split
    all_goals first | rfl | exact getA_setA_other _ _ _ _ hs'

/-- what a successful end of an `updateAttr` program must leave: the generic store (`base`) writes the attribute itself;
    `call` and `fell` are no valid ends of an `updateAttr` body and are reported as CKR_GENERAL_ERROR -/
def keepsPost (c : AbsCtx) (goal : Bool) : RKind → Bool → Bool
  | .done rv, tv => rv != CKR.OK || tv == goal
  | .base, tv => c.selfTy != c.target && tv == goal
  | _, _ => true

/-- check of one attribute: `T` is outside the footprint of its `updateAttr`, or every successful path of the program,
    started with `T = goal`, ends with `T = goal` -/
def attrKeeps (d : AttrDesc) (op : Option Nat) (soK : Option Bool) (T : Nat) (goal : Bool) : Bool :=
  !kindWrites d.upd d.ty T ||
  match d.upd with
  | .prog p => let c : AbsCtx := { op := op, soIn := soK, selfTy := d.ty, target := T }; safe c (keepsPost c goal) p goal
  | _ => false

theorem attrKeeps_sound {d : AttrDesc} {opK : Option Nat} {soK : Option Bool} {T : Nat} {goal : Bool}
    (hchk : attrKeeps d opK soK T goal = true) {t : TEntry} {op : Nat} {p so : Bool} (hop : ∀ n, opK = some n → op = n)
    (hso : ∀ b, soK = some b → so = b) {o o' : Attrs} {oRv : RV} (hk : Knows o T goal)
    (h : updateAttribute d t op p so o oRv = (CKR.OK, o')) : Knows o' T goal := by
  have hr := updateAttribute_ok h
  simp only [attrKeeps, Bool.or_eq_true, Bool.not_eq_true'] at hchk
  rcases hchk with hf | hs
  · have := runUpdateAttr_frame d.upd (mkEnv d t op p so) t.nested o oRv T hf
    rw [hr] at this; exact this.trans hk
  · split at hs
    · rename_i q hq
      have hc : Cons { op := opK, soIn := soK, selfTy := d.ty, target := T } (mkEnv d t op p so) :=
        ⟨rfl, hop, hso, fun b hb => by cases hb⟩
      obtain ⟨tv', hk', hp⟩ := safe_sound hc q _ goal o hk hs
      rw [hq, runUpdateAttr_prog] at hr
      cases hrun : runProg (mkEnv d t op p so) q o with
      | done rv o2 =>
        rw [hrun] at hr hk' hp; cases hr
        simp [keepsPost, URes.rkind] at hp; exact hp ▸ hk'
      | base o2 =>
        rw [hrun] at hr hk' hp; cases hr
        simp [keepsPost, URes.rkind] at hp
        exact hp.2 ▸ Knows.setA_other hk' _ _ (fun hh => hp.1 hh.symm)
      | _ => rw [hrun] at hr; cases hr
    · cases hs

def tableKeeps (op : Option Nat) (soK : Option Bool) (T : Nat) (goal : Bool) : Bool :=
  Gen.classTable.all fun cd => cd.attrs.all (attrKeeps · op soK T goal)

/-- then, in every class, a template that `saveTemplate` accepts as a whole keeps `T` at `goal` -/
theorem saveTemplate_keeps {opK : Option Nat} {soK : Option Bool} {T : Nat} {goal : Bool} (htbl : tableKeeps opK soK T goal = true)
    {cd : ClassDesc} (hcd : cd ∈ Gen.classTable) {op : Nat} {p so : Bool} (hop : ∀ n, opK = some n → op = n)
    (hso : ∀ b, soK = some b → so = b) {o o' : Attrs} {tpl : Template} {oRv : RV} (hk : Knows o T goal)
    (h : saveTemplate cd o tpl op p so oRv = .ok o') : Knows o' T goal :=
  (applyEntries_ok (E := fun _ => True)
    (fun d hd _ _ _ _ hI hu =>
      ⟨attrKeeps_sound (List.all_eq_true.mp (List.all_eq_true.mp htbl cd hcd) d hd) hop hso hI hu, trivial⟩)
    tpl o o' hk (saveTemplate_ok h)).1

end Shm
