/-
  The handle table: an association list whose keys are strictly ascending and bounded by the counter (what `std::map` and a
  monotone counter give).  How each table operation changes well-formedness, lookups (`get`) and the predicates that look at
  session entries only (`anyE`).  Every operation that removes entries is ONE `eraseIf` (`sessionClosed_eq`, `destroyObject_eq`), so
  each fact is proved for `eraseIf` and read off.  Also here: what a resolved session or object handle says of the table and the
  object list (`sessTok_getSess`, `resolveObj_getObjH`, `resolveObj_mem`).
-/
import Shm.Model.Step
import Shm.Lemmas.Lists
namespace Shm

structure HTable.WF (t : HTable) (counter : Nat) : Prop where
  asc : t.Pairwise (fun a b => a.1 < b.1)
  bound : ∀ e ∈ t, e.1 ≤ counter

def State.WF (s : State) : Prop := s.handles.WF s.counter

/-- split every `if`/`match` of an unfolded step function, removing `have` bindings on the way; an `if` that is the last argument of the
    goal is taken by `ite_ind` -/
macro "step_cases" : tactic => `(tactic| repeat' (first | (apply ite_ind <;> intro _) | split | (dsimp only)))

/-! ### every operation that removes entries is one `eraseIf` -/

theorem eraseIf_eraseIf (t : HTable) (p q : Nat → Ent → Bool) : (t.eraseIf p).eraseIf q = t.eraseIf fun k e => p k e || q k e := by
  unfold HTable.eraseIf
  rw [List.filter_filter]
  congr 1; funext e
  rw [Bool.not_or, Bool.and_comm]

theorem getSess_get {t : HTable} {h : Nat} {ss : Sess} (hs : t.getSess h = some ss) : t.get h = some (.sess ss) := by
  unfold HTable.getSess at hs
  split at hs <;> simp_all

/-- `HandleManager::sessionClosed`: the session, the session objects registered under it, and everything of the slot when no other
    session of the slot remains -/
theorem sessionClosed_eq {t : HTable} {h : Nat} {ss : Sess} (hs : t.getSess h = some ss) :
    t.sessionClosed h = t.eraseIf fun k e =>
      k == h || ownedBy h e || (!(t.any fun x => x.1 != h && isSessOn ss.slot x.2) && e.slot == ss.slot) := by
  unfold HTable.sessionClosed
  simp only [hs]
  have hany : ((t.eraseIf fun k _ => k == h).eraseIf fun _ e => ownedBy h e).haveSession ss.slot
      = t.any (fun x => x.1 != h && isSessOn ss.slot x.2) := by
    unfold HTable.haveSession HTable.eraseIf
    rw [List.any_filter, List.any_filter]
    congr 1; funext x
    obtain ⟨a, e⟩ := x
    cases e <;> simp [isSessOn, ownedBy, bne, Bool.and_comm]
  rw [hany]
  split
  · next hp => rw [eraseIf_eraseIf]; simp [hp]
  · next hp => unfold HTable.allSessionsClosed; rw [eraseIf_eraseIf, eraseIf_eraseIf]; simp [hp, Bool.or_assoc]

theorem destroyObject_eq (t : HTable) (h : Nat) : t.destroyObject h = t.eraseIf fun k _ => k == h && (t.getObjH h).isSome := by
  unfold HTable.destroyObject HTable.eraseIf
  cases t.getObjH h
  · exact (List.filter_eq_self.mpr fun _ _ => by simp).symm
  · simp

theorem HTable.WF.filter {t : HTable} {c : Nat} (h : t.WF c) (p : Nat × Ent → Bool) : HTable.WF (t.filter p) c :=
  ⟨h.asc.filter p, fun e he => h.bound e (List.mem_filter.mp he).1⟩

theorem HTable.WF.eraseIf {t : HTable} {c : Nat} (h : t.WF c) (p : Nat → Ent → Bool) : (t.eraseIf p).WF c :=
  WF.filter h _

theorem HTable.WF.append {t : HTable} {c : Nat} (h : t.WF c) (e : Ent) : HTable.WF (t ++ [(c + 1, e)]) (c + 1) := by
  refine ⟨?_, ?_⟩
  · rw [List.pairwise_append]
    refine ⟨h.asc, by simp, ?_⟩
    intro a ha b hb
    simp at hb; subst hb
    have := h.bound a ha
    show a.1 < c + 1
    omega
  · intro x hx
    rw [List.mem_append] at hx
    rcases hx with hx | hx
    · have := h.bound x hx; omega
    · simp at hx; subst hx; exact Nat.le_refl _

theorem HTable.WF.mono {t : HTable} {c c' : Nat} (h : t.WF c) (hc : c ≤ c') : t.WF c' :=
  ⟨h.asc, fun e he => Nat.le_trans (h.bound e he) hc⟩

theorem HTable.WF.setSess {t : HTable} {c : Nat} (h : t.WF c) (k : Nat) (s : Sess) : (t.setSess k s).WF c := by
  unfold HTable.setSess
  refine ⟨?_, ?_⟩
  · rw [List.pairwise_map]; exact h.asc
  · intro e he
    rw [List.mem_map] at he
    obtain ⟨x, hx, rfl⟩ := he
    exact h.bound x hx

theorem HTable.WF.sessionClosed {t : HTable} {c : Nat} (h : t.WF c) (k : Nat) : (t.sessionClosed k).WF c := by
  cases hs : t.getSess k with
  | none => unfold HTable.sessionClosed; rw [hs]; exact h
  | some ss => rw [sessionClosed_eq hs]; exact h.eraseIf _

theorem HTable.WF.destroyObject {t : HTable} {c : Nat} (h : t.WF c) (k : Nat) : (t.destroyObject k).WF c :=
  destroyObject_eq t k ▸ h.eraseIf _

theorem HTable.WF.allSessionsClosed {t : HTable} {c : Nat} (h : t.WF c) (k : Nat) : (t.allSessionsClosed k).WF c :=
  h.eraseIf _

theorem HTable.WF.tokenLoggedOut {t : HTable} {c : Nat} (h : t.WF c) (k : Nat) : (t.tokenLoggedOut k).WF c :=
  h.eraseIf _

theorem wf_nil (c : Nat) : HTable.WF [] c := ⟨List.Pairwise.nil, fun _ h => by simp at h⟩

theorem wf_init : State.WF {} := wf_nil 0

theorem mem_unique {t : HTable} {c : Nat} (hwf : t.WF c) {k : Nat} {e e' : Ent} (h1 : (k, e) ∈ t) (h2 : (k, e') ∈ t) :
    e = e' :=
  have hn : (t.map (·.1)).Nodup := List.pairwise_map.mpr (hwf.asc.imp Nat.ne_of_lt)
  (Prod.mk.inj (inj_of_nodup_map (·.1) t hn _ h1 _ h2 rfl)).2

theorem get_eraseIf {t : HTable} {c : Nat} (h : t.WF c) (p : Nat → Ent → Bool) (k : Nat) :
    (t.eraseIf p).get k = (t.get k).filter (fun e => !p k e) := by
  exact lookup_filter _ k t h.asc

theorem get_none_of_gt {t : HTable} {c : Nat} (h : t.WF c) (k : Nat) (hk : c < k) : t.get k = none :=
  List.lookup_eq_none_iff.mpr fun e he => by have := h.bound e he; simp; omega

theorem get_append_old {t : HTable} {c : Nat} (_h : t.WF c) (e : Ent) (k : Nat) (hk : k ≤ c) :
    (t ++ [(c + 1, e)]).get k = t.get k := by
  have : (k == c + 1) = false := by simp; omega
  simp [HTable.get, List.lookup_append, List.lookup, this]

theorem get_append_new {t : HTable} {c : Nat} (h : t.WF c) (e : Ent) :
    (t ++ [(c + 1, e)]).get (c + 1) = some e := by
  have := get_none_of_gt h (c + 1) (Nat.lt_succ_self c)
  unfold HTable.get at this ⊢
  simp [List.lookup_append, this, List.lookup]

/-- what `setSess h s` does to one entry -/
def updSess (h : Nat) (s : Sess) (k : Nat) (e : Ent) : Ent :=
  if k == h then replSess s e else e

theorem get_setSess (t : HTable) (h : Nat) (s : Sess) (k : Nat) :
    (t.setSess h s).get k = (t.get k).map (updSess h s k) := by
  exact lookup_map_keep (fun e : Nat × Ent => if e.1 == h then replSess s e.2 else e.2) t k

theorem getSess_setSess_ne (t : HTable) (h h1 : Nat) (x : Sess) (hne : h ≠ h1) : (t.setSess h1 x).getSess h = t.getSess h := by
  unfold HTable.getSess
  rw [get_setSess]
  have : (h == h1) = false := by simpa using hne
  cases t.get h with
  | none => rfl
  | some e => simp [updSess, this]

theorem setSess_comm (t : HTable) (h h1 : Nat) (x y : Sess) (hne : h ≠ h1) : (t.setSess h1 x).setSess h y = (t.setSess h y).setSess h1 x := by
  unfold HTable.setSess
  simp only [List.map_map]
  apply List.map_congr_left
  intro e _
  by_cases h1e : e.1 = h1 <;> by_cases h2e : e.1 = h
  · exact absurd (h2e.symm.trans h1e) hne
  · simp [h1e, Ne.symm hne]
  · simp [h2e, hne]
  · simp [h1e, h2e]

theorem getObjH_setSess (t : HTable) (h1 : Nat) (x : Sess) (k : Nat) : (t.setSess h1 x).getObjH k = t.getObjH k := by
  unfold HTable.getObjH
  rw [get_setSess]
  cases t.get k with
  | none => rfl
  | some e =>
    cases e with
    | sess s0 => by_cases hk : (k == h1) = true <;> simp [updSess, replSess, hk]
    | obj o => by_cases hk : (k == h1) = true <;> simp [updSess, replSess, hk]

theorem getSess_mintAll {t : HTable} {h : Nat} {ss : Sess} (hs : t.getSess h = some ss) (slot hS : Nat) (os : List Obj) :
    ∀ c, (mintAll t c slot hS os).getSess h = some ss := by
  induction os generalizing t with
  | nil => exact fun _ => hs
  | cons o rest ih =>
    intro c
    refine ih ?_ _
    unfold HTable.getSess HTable.get at hs ⊢
    rw [List.lookup_append]
    cases hl : t.lookup h with
    | none => rw [hl] at hs; cases hs
    | some e => rw [hl] at hs; exact hs

theorem get_sessionClosed {t : HTable} {c : Nat} (hwf : t.WF c) (h k : Nat) (ss : Sess) (hs : t.getSess h = some ss) :
    (t.sessionClosed h).get k =
      (t.get k).filter (fun e => !(k == h) && !(ownedBy h e) &&
        !((!(t.any fun x => x.1 != h && isSessOn ss.slot x.2)) && e.slot == ss.slot)) := by
  rw [sessionClosed_eq hs, get_eraseIf hwf]
  simp only [Bool.not_or]

theorem get_destroyObject {t : HTable} {c : Nat} (hwf : t.WF c) (o k : Nat) (e : ObjH) (he : t.getObjH o = some e) :
    (t.destroyObject o).get k = if k = o then none else t.get k := by
  rw [destroyObject_eq, get_eraseIf hwf, he]
  by_cases hko : k = o <;> cases hg : t.get k <;> simp [Option.filter, hko]

theorem resolveObj_getObjH {s : State} {o : Nat} {r : ObjH × Obj} (h : resolveObj s o = some r) :
    s.handles.getObjH o = some r.1 := by
  unfold resolveObj at h
  split at h
  · simp at h
  · rename_i e he
    cases hg : getObj s.objs e.oid with
    | none => simp [hg] at h
    | some ob => simp [hg] at h; rw [← h]; exact he

theorem sessTok_getSess {s : State} {h : Nat} {r : Sess × Tok} (hst : sessTok s h = some r) :
    s.handles.getSess h = some r.1 := by
  unfold sessTok at hst
  split at hst
  · simp at hst
  · rename_i ss hss
    cases hf : findTok s.slots ss.slot with
    | none => simp [hf] at hst
    | some t => simp [hf] at hst; rw [← hst]; exact hss

theorem getObj_mem {os : List Obj} {oid : Nat} {o : Obj} (h : getObj os oid = some o) : o ∈ os ∧ o.oid = oid := by
  unfold getObj at h
  exact ⟨List.mem_of_find?_eq_some h, by simpa using List.find?_some h⟩

theorem resolveObj_mem {s : State} {h : Nat} {oh : ObjH} {ob : Obj} (hr : resolveObj s h = some (oh, ob)) : ob ∈ s.objs := by
  unfold resolveObj at hr
  cases hg : s.handles.getObjH h with
  | none => simp [hg] at hr
  | some x =>
    simp only [hg] at hr
    cases hgo : getObj s.objs x.oid with
    | none => simp [hgo] at hr
    | some o =>
      simp only [hgo, Option.map_some, Option.some.injEq, Prod.mk.injEq] at hr
      rw [← hr.2]; exact (getObj_mem hgo).1

def SessOnly (q : Ent → Bool) : Prop := ∀ o, q (.obj o) = false

theorem sessOnly_isSessOn (slot : Nat) : SessOnly (isSessOn slot) := fun _ => rfl
theorem sessOnly_isROSessOn (slot : Nat) : SessOnly (isROSessOn slot) := fun _ => rfl

def anyE (t : HTable) (q : Ent → Bool) : Bool := t.any fun e => q e.2

theorem haveSession_anyE (t : HTable) (slot : Nat) : t.haveSession slot = anyE t (isSessOn slot) := rfl
theorem haveROSession_anyE (t : HTable) (slot : Nat) : t.haveROSession slot = anyE t (isROSessOn slot) := rfl

theorem anyE_true_iff (t : HTable) (q : Ent → Bool) : anyE t q = true ↔ ∃ e ∈ t, q e.2 = true := by
  simp [anyE]

theorem anyE_nil (q : Ent → Bool) : anyE [] q = false := rfl

theorem anyE_append (t : HTable) (k : Nat) (e : Ent) (q : Ent → Bool) :
    anyE (t ++ [(k, e)]) q = (anyE t q || q e) := by
  simp [anyE, List.any_append]

theorem anyE_eraseIf (t : HTable) (p : Nat → Ent → Bool) (q : Ent → Bool) :
    anyE (t.eraseIf p) q = t.any (fun e => !p e.1 e.2 && q e.2) := by
  unfold anyE HTable.eraseIf
  rw [List.any_filter]

theorem anyE_eraseIf_irrelevant (t : HTable) (p : Nat → Ent → Bool) (q : Ent → Bool)
    (h : ∀ e ∈ t, p e.1 e.2 = true → q e.2 = false) : anyE (t.eraseIf p) q = anyE t q := by
  rw [anyE_eraseIf]
  refine any_congr_mem fun e he => ?_
  cases hp : p e.1 e.2
  · rfl
  · rw [h e he hp]; rfl

theorem anyE_setSess (t : HTable) (h : Nat) (x : Sess) (q : Ent → Bool)
    (hq : ∀ e, (h, e) ∈ t → q (updSess h x h e) = q e) : anyE (t.setSess h x) q = anyE t q := by
  unfold anyE HTable.setSess
  rw [List.any_map]
  refine any_congr_mem fun ⟨k, v⟩ he => ?_
  by_cases hk : k = h
  · subst hk; simpa [updSess] using hq v he
  · simp [hk]

theorem anyE_sessionClosed (t : HTable) (h : Nat) (ss : Sess) (hs : t.getSess h = some ss) (q : Ent → Bool)
    (hq : SessOnly q) :
    anyE (t.sessionClosed h) q = t.any (fun e => e.1 != h && q e.2) := by
  rw [sessionClosed_eq hs, anyE_eraseIf]
  refine any_congr_mem fun ⟨k, e⟩ he => ?_
  cases e with
  | obj o => simp only [hq o, Bool.and_false]
  | sess x =>
    -- a session of the slot other than `h` is itself a session that remains, so the slot is not purged
    have hk : (k != h) = true → x.slot = ss.slot → t.any (fun y => y.1 != h && isSessOn ss.slot y.2) = true := fun h1 h2 =>
      List.any_eq_true.mpr ⟨_, he, by simp only [h1, isSessOn, h2, beq_self_eq_true, Bool.and_self]⟩
    cases h1 : k != h
    · simp [bne_eq_false_iff_eq.mp h1]
    · by_cases h2 : x.slot = ss.slot
      · simp [ownedBy, Ent.slot, hk h1 h2, bne_iff_ne.mp h1]
      · simp [ownedBy, Ent.slot, h2, bne_iff_ne.mp h1]

theorem haveSession_append_sess (t : HTable) (k : Nat) (x : Sess) (id : Nat) :
    HTable.haveSession (t ++ [(k, .sess x)]) id = (t.haveSession id || x.slot == id) := by
  rw [haveSession_anyE, anyE_append]; rfl

theorem haveROSession_append_sess (t : HTable) (k : Nat) (x : Sess) (id : Nat) :
    HTable.haveROSession (t ++ [(k, .sess x)]) id = (t.haveROSession id || (x.slot == id && !x.rw)) := by
  rw [haveROSession_anyE, anyE_append]; rfl

theorem getSess_mem {t : HTable} {h : Nat} {ss : Sess} (hs : t.getSess h = some ss) : (h, Ent.sess ss) ∈ t :=
  lookup_mem _ _ _ (getSess_get hs)

theorem haveSession_of_getSess {t : HTable} {h : Nat} {ss : Sess} (hs : t.getSess h = some ss) :
    t.haveSession ss.slot = true := by
  rw [haveSession_anyE, anyE_true_iff]
  exact ⟨_, getSess_mem hs, by simp [isSessOn]⟩

theorem anyE_eraseIf_objs (t : HTable) (p : Nat → Ent → Bool) (q : Ent → Bool) (hq : SessOnly q)
    (hp : ∀ k x, p k (.sess x) = false) : anyE (t.eraseIf p) q = anyE t q := by
  apply anyE_eraseIf_irrelevant
  intro e _ hpe
  cases he : e.2 with
  | sess x => rw [he, hp] at hpe; simp at hpe
  | obj o => exact hq o

theorem getObjH_mem {t : HTable} {o : Nat} {e : ObjH} (he : t.getObjH o = some e) : (o, Ent.obj e) ∈ t := by
  unfold HTable.getObjH at he
  split at he
  · rename_i o' hg; cases he; exact lookup_mem _ _ _ hg
  · cases he

theorem anyE_destroyObject (t : HTable) (o : Nat) (q : Ent → Bool) (hq : SessOnly q) (c : Nat) (hwf : t.WF c) :
    anyE (t.destroyObject o) q = anyE t q := by
  rw [destroyObject_eq]
  refine anyE_eraseIf_irrelevant _ _ _ fun ⟨k, v⟩ hx hp => ?_
  -- what goes is the entry under `o`, and that is an object
  simp only [Bool.and_eq_true, beq_iff_eq, Option.isSome_iff_exists] at hp
  obtain ⟨rfl, e, he⟩ := hp
  rw [mem_unique hwf hx (getObjH_mem he)]; exact hq e

theorem anyE_allSessionsClosed_other (t : HTable) (slot : Nat) (q : Ent → Bool) (hq : ∀ e : Ent, e.slot = slot → q e = false) :
    anyE (t.allSessionsClosed slot) q = anyE t q :=
  anyE_eraseIf_irrelevant _ _ _ fun e _ hp => hq e.2 (by simpa using hp)

end Shm
