/-
  C20 — behaviour does not depend on the storage backend or the crypto backend.

  The model has no backend parameter: `stepAny : State → AnyCall → State × Resp` is one function.  What this file states is the
  (easy, but load-bearing) consequence used by the check: two implementations whose observations both agree with the model along a
  history agree with each other — return codes, numbers (handles, lengths, states) and returned bytes.
-/
import Shm.Model.Machine
import Shm.Gen.ClassTable
import Shm.Gen.DbKinds
namespace Shm.C20

/-- the responses of the model along a history -/
def responses : State → List AnyCall → List Resp
  | _, [] => []
  | s, c :: cs => (stepAny s c).2 :: responses (stepAny s c).1 cs

/-- **determinism of the yardstick**: the model's responses are a function of the start state and the call history (which carries the
    observed oracle values: serial numbers, handles minted by searches, random outputs) — there is nothing else they could depend on -/
theorem C20_model_is_a_function (s : State) (cs : List AnyCall) (r1 r2 : List Resp) (h1 : r1 = responses s cs) (h2 : r2 = responses s cs) : r1 = r2 := by
  rw [h1, h2]

/-- two observation sequences that both agree with the model agree with each other -/
theorem C20_agree_through_model (s : State) (cs : List AnyCall) (obsA obsB : List Resp)
    (hA : obsA = responses s cs) (hB : obsB = responses s cs) : obsA = obsB := C20_model_is_a_function s cs obsA obsB hA hB

/-- the length of the response list is the length of the history: no call is skipped -/
theorem C20_responses_length (s : State) (cs : List AnyCall) : (responses s cs).length = cs.length := by
  induction cs generalizing s with
  | nil => rfl
  | cons c cs ih => simp [responses, ih]

/-! ### the SQLite object store knows every attribute the PKCS#11 layer stores (tables regenerated from the source on every run) -/

/-- kind of a default value as the SQLite store's `attributeKind` names it: 1 = akBoolean, 2 = akInteger, 3 = akBinary, 4 = akAttrMap, 5 = akMechSet -/
def kindOf : AVal → Option Nat
  | .bool _ => some 1
  | .ulong _ => some 2
  | .bytes _ _ => some 3
  | .amap _ => some 4
  | .mechs _ => some 5
  | .unk => none

def dbKnows (a : AttrDesc) : Bool := (Gen.dbKinds.lookup a.ty).isSome

def dbKindAgrees (a : AttrDesc) : Bool :=
  match a.dflt.bind kindOf, Gen.dbKinds.lookup a.ty with
  | some k, some k' => k == k'
  | _, _ => true

/-- **every attribute of every object class has a storage kind in the SQLite backend** (an attribute without one is written as nothing and reads back empty after a
    reload: the defect repaired for CKA_DESTROYABLE in 3a6027d and for CKA_PUBLIC_KEY_INFO in the last fix) — checked against `attributeKind()` of DBObject.cpp and
    the class tables of P11Objects.cpp as they are in the tree NOW -/
theorem T20_db_knows_every_attribute : (Gen.classTable.all fun cd => cd.attrs.all dbKnows) = true := by decide +kernel

/-- … and where the class table gives a default value, the SQLite kind is the kind of that value (a Boolean is not stored as a byte string, and so on) -/
theorem T20_db_kinds_agree : (Gen.classTable.all fun cd => cd.attrs.all dbKindAgrees) = true := by decide +kernel

end Shm.C20
