/-
  C10 — cryptographic results are correct, interoperable, and verification is sound.

  What is decided where.  "The token's outputs equal those of an independent implementation of the standard" is decided by K10: the
  reference implementations of Shm/Crypto (written from FIPS 197, FIPS 180-4, SP 800-38A/B/D, RFC 2104, RFC 8017, FIPS 186-4; each
  checked against the standards' vectors) recompute EVERY completed operation of every history — ciphertexts, plaintexts, MACs,
  digests, deterministic signatures; they verify the randomised ones; and the token's accept/reject verdicts on untouched and on
  tampered inputs must equal the reference's.  The theorems here are about the reference itself, for every block function:
  the modes are correct inverses, and feeding a message in pieces is the same as feeding it at once.
-/
import Shm.Lemmas.ModesLemmas
import Shm.Crypto.More
import Shm.Lemmas.DesLemmas
import Shm.Lemmas.RsaPadLemmas
import Shm.Crypto.Ecc
namespace Shm.C10
open Shm.Crypto

/-- CBC decryption undoes CBC encryption (block-aligned messages, any 16-byte IV) -/
theorem C10_cbc_roundtrip {E D : Bytes → Bytes} (h : BlockInv E D) (iv m : Bytes) (hiv : iv.length = 16) (hm : m.length % 16 = 0) :
    cbcDecrypt D iv (cbcEncrypt E iv m) = m := cbc_roundtrip h iv m hiv hm

/-- CBC with PKCS#7 padding (CKM_AES_CBC_PAD) round-trips every message -/
theorem C10_cbc_pad_roundtrip {E D : Bytes → Bytes} (h : BlockInv E D) (iv m : Bytes) (hiv : iv.length = 16) :
    pkcs7Unpad 16 (cbcDecrypt D iv (cbcEncrypt E iv (pkcs7Pad 16 m))) = some m := cbc_pad_roundtrip h iv m hiv

/-- **multi-part = single-part, CBC**: encrypting `a ++ b` is encrypting `a` and then `b` under the last ciphertext block of `a` as IV —
    so any split of the message at block boundaries yields the same ciphertext -/
theorem C10_cbc_pieces (E : Bytes → Bytes) : ∀ (a b : List Bytes) (iv : Bytes),
    cbcEncBlocks E iv (a ++ b) = cbcEncBlocks E iv a ++ cbcEncBlocks E ((cbcEncBlocks E iv a).getLast?.getD iv) b := by
  intro a
  induction a with
  | nil => intro b iv; rfl
  | cons p rest ih =>
    intro b iv
    -- the last block of `c :: cs` is the last block of `cs`, or `c` when there is none: the IV the induction hypothesis continues with
    simp only [List.cons_append, cbcEncBlocks, ih b (E (xorBytes p iv)), List.getLast?_cons, Option.getD_some]

/-- **CTR is its own inverse**: decrypting is encrypting again with the same counter block, for every message length, every counter width -/
theorem C10_ctr_involution {E : Bytes → Bytes} (hE : ∀ b, b.length = 16 → (E b).length = 16) (bits : Nat) (cb m : Bytes) (hcb : cb.length = 16) :
    ctrCrypt E bits cb (ctrCrypt E bits cb m) = m := ctr_involution hE bits cb m hcb

/-- **GCM**: authenticated decryption accepts exactly what encryption produced and returns the plaintext — for every IV length, AAD,
    plaintext and every tag length up to 16 bytes -/
theorem C10_gcm_roundtrip {E : Bytes → Bytes} (hE : ∀ b, b.length = 16 → (E b).length = 16) (iv aad pt : Bytes) (tagLen : Nat) (ht : tagLen ≤ 16)
    (hj : (gcmJ0 (bytesToNat (E (List.replicate 16 0))) iv).length = 16) :
    let r := gcmEncrypt E iv aad pt
    gcmDecrypt E iv aad (r.1 ++ r.2.take tagLen) tagLen = some pt :=
  gcm_roundtrip hE iv aad pt tagLen ht  -- `hj` holds for every IV (`gcmJ0_length`) and is not needed

/-- PKCS#7 padding: unpad undoes pad; the padded length is a multiple of the block size -/
theorem C10_pkcs7 (bs : Nat) (m : Bytes) (h0 : 0 < bs) (h1 : bs < 256) :
    pkcs7Unpad bs (pkcs7Pad bs m) = some m ∧ (pkcs7Pad bs m).length % bs = 0 := ⟨pkcs7_roundtrip bs m h0 h1, pkcs7Pad_length bs m h0⟩

/-- **DES / triple DES: decryption is the same rounds with the key schedule reversed** - the sixteen Feistel rounds followed by the exchange of the halves are undone
    by the same procedure under the reversed schedule, for EVERY round function and EVERY key schedule (so in particular for `fFun` and `subkeys`; that the
    tables are the FIPS 46-3 ones is validated by execution: the FIPS example vector and every 3DES operation of K10 / K20) -/
theorem C10_feistel_inverse {K : Type} (f : K → UInt32 → UInt32) (ks : List K) (x : UInt32 × UInt32) :
    Shm.Crypto.DES.core f ks.reverse (Shm.Crypto.DES.core f ks x) = x := Shm.Crypto.DES.core_inverse f ks x

/-- **RSA PKCS#1 v1.5 encryption framing**: the reference decoder (which the monitor applies to `c^d mod n` of every RSA ciphertext the token makes, and to which the token's own
    C_Decrypt answers are compared) returns exactly the message from `00 02 PS 00 M`, for every non-zero padding of at least eight bytes; MGF1 never yields more than asked -/
theorem C10_pkcs1_encryption_framing (ps m : Bytes) (h : ∀ b ∈ ps, b ≠ 0) (h8 : 8 ≤ ps.length) (hash : Bytes → Bytes) (seed : Bytes) (len : Nat) :
    Shm.Crypto.emePkcs1Decode (0x00 :: 0x02 :: (ps ++ 0x00 :: m)) = some m ∧ (Shm.Crypto.mgf1 hash seed len).length ≤ len :=
  ⟨Shm.Crypto.pkcs1_type2_roundtrip ps m h h8, Shm.Crypto.mgf1_length_le hash seed len⟩

/-- **RSA-OAEP framing round trip** (RFC 8017 7.1): the reference decoder - which the monitor applies to `c^d mod n` of every OAEP ciphertext the token makes - recovers exactly the message
    the encoder framed, for every message that fits, every seed of hash length, every hash with a fixed non-empty output length (MGF1 then returns exactly what is asked for) -/
theorem C10_oaep_roundtrip (hash mgfHash : Bytes → Bytes) (hLen gLen : Nat) (hg0 : 0 < gLen) (hg : ∀ x, (mgfHash x).length = gLen)
    (m seed : Bytes) (k : Nat) (hseed : seed.length = (hash []).length) (hfit : m.length + 2 * (hash []).length + 2 ≤ k) :
    Shm.Crypto.emeOaepDecode hash mgfHash (Shm.Crypto.emeOaepEncode hash mgfHash m seed k) = some m :=
  Shm.Crypto.oaep_roundtrip hash mgfHash m seed k (fun s n => Shm.Crypto.mgf1_length mgfHash gLen hg0 hg s n) hseed hfit

/-- **RSASSA-PSS encoding round trip** (RFC 8017 9.1): the reference verifier - which the monitor applies to `s^e mod n` of every PSS signature the token makes - accepts every
    encoding the EMSA-PSS encoder produces, for every message hash, every salt, every modulus size in which they fit (`emBits` need not be a multiple of 8: the leftmost
    `8·emLen - emBits` bits are cleared by the encoder and ignored by the verifier), every hash with a fixed non-empty output length -/
theorem C10_pss_roundtrip (hash mgfHash : Bytes → Bytes) (hLen gLen : Nat) (hg0 : 0 < gLen) (hg : ∀ x, (mgfHash x).length = gLen) (hh : ∀ x, (hash x).length = hLen)
    (mHash salt : Bytes) (emBits : Nat) (hm : mHash.length = hLen) (hfit : hLen + salt.length + 2 ≤ (emBits + 7) / 8) :
    Shm.Crypto.emsaPssVerify hash mgfHash mHash (Shm.Crypto.emsaPssEncode hash mgfHash mHash salt emBits) emBits salt.length = true :=
  Shm.Crypto.pss_roundtrip hash mgfHash mHash salt emBits hLen hh (fun s n => Shm.Crypto.mgf1_length mgfHash gLen hg0 hg s n) hm hfit

/-- non-vacuity: a toy hash of two bytes (fixed length, non-empty), a 3-byte salt, a modulus of 61 bits -/
example : Shm.Crypto.emsaPssVerify (fun x => [UInt8.ofNat x.length, x.foldl (· ^^^ ·) 0x5a]) (fun x => [UInt8.ofNat x.length, x.foldl (· + ·) 7])
    [0x11, 0x22] (Shm.Crypto.emsaPssEncode (fun x => [UInt8.ofNat x.length, x.foldl (· ^^^ ·) 0x5a]) (fun x => [UInt8.ofNat x.length, x.foldl (· + ·) 7]) [0x11, 0x22] [9, 8, 7] 61) 61 3 = true := by
  decide +kernel

/-- **ECDSA verification, what is never accepted** (the reference the monitor judges the token's verifications and signatures with, on all eight named curves): a signature whose
    length is not twice the octet length of the group ORDER, a component r or s outside [1, n-1], a public point that is not on the curve -/
theorem C10_ecdsa_reference_guards (c : Shm.Crypto.Curve) (q : Nat × Nat) (hash sig : Bytes) (h : c.ecdsaVerify q hash sig = true) :
    sig.length = 2 * c.orderLen ∧ 0 < Shm.Crypto.bytesToNat (sig.take c.orderLen) ∧ Shm.Crypto.bytesToNat (sig.take c.orderLen) < c.n ∧
    0 < Shm.Crypto.bytesToNat (sig.drop c.orderLen) ∧ Shm.Crypto.bytesToNat (sig.drop c.orderLen) < c.n ∧ c.onCurve (some q) = true :=
  Shm.Crypto.ecdsaVerify_guards c q hash sig h

end Shm.C10
