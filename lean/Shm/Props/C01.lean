/-
  C01 — Private objects are unreachable unless the normal user is logged in; token objects need R/W sessions.
  The access matrix is the GENERATED `Gen.haveRead` / `Gen.haveWrite` (exhaustive evaluation of access.cpp).
-/
import Shm.Lemmas.HTable
import Shm.Props.C11
namespace Shm.C01

def isUserState : SState → Bool
  | .roUser | .rwUser => true
  | _ => false

def isRW : SState → Bool
  | .rwPublic | .rwUser | .rwSO => true
  | _ => false

/-! ## the matrix -/

theorem C01_matrix_read_private (st : SState) (tok : Bool) (h : Gen.haveRead st tok true = CKR.OK) : isUserState st = true := by
  revert h; cases st <;> cases tok <;> decide

theorem C01_matrix_write_private (st : SState) (tok : Bool) (h : Gen.haveWrite st tok true = CKR.OK) : isUserState st = true := by
  revert h; cases st <;> cases tok <;> decide

theorem C01_matrix_write_token (st : SState) (priv : Bool) (h : Gen.haveWrite st true priv = CKR.OK) : isRW st = true := by
  revert h; cases st <;> cases priv <;> decide

/-- public objects stay readable in every state, and writable wherever the token/RW rule allows (the matrix is
    not simply "refuse everything") -/
theorem C01_matrix_public_ok (st : SState) : Gen.haveRead st false false = CKR.OK ∧ Gen.haveWrite st false false = CKR.OK := by
  cases st <;> decide

/-- the same three facts as refusals, in the form the calls test them -/
theorem read_private_refused {st : SState} (h : isUserState st = false) (tok : Bool) : Gen.haveRead st tok true ≠ CKR.OK :=
  mt (C01_matrix_read_private st tok) (Bool.eq_false_iff.mp h)

theorem write_private_refused {st : SState} (h : isUserState st = false) (tok : Bool) : Gen.haveWrite st tok true ≠ CKR.OK :=
  mt (C01_matrix_write_private st tok) (Bool.eq_false_iff.mp h)

theorem write_token_refused {st : SState} (h : isRW st = false) (priv : Bool) : Gen.haveWrite st true priv ≠ CKR.OK :=
  mt (C01_matrix_write_token st priv) (Bool.eq_false_iff.mp h)

/-! ## every call that takes an object handle refuses a private object outside the user states, changes
       nothing and returns neither handle nor attribute bytes -/

section
variable (s : State) (h o : Nat) (ss : Sess) (t : Tok) (e : ObjH) (ob : Obj)
variable (hi : s.initialised = true) (hst : sessTok s h = some (ss, t)) (hres : resolveObj s o = some (e, ob))
variable (hpriv : ob.isPriv = true) (hnu : isUserState (stateOf t ss.rw) = false)

include hi hst hres hpriv hnu

theorem C01_getAttr_private (req : List (Nat × Option Nat)) (ov : List (Nat × Option Bytes)) :
    step s (.getAttr h o req ov) = (s, { rv := CKR.GENERAL_ERROR }) := by
  simp [step, guardInit_of_init hi, stepGetAttr, hst, hres, hpriv, read_private_refused hnu, rOnly]

theorem C01_probe_private : step s (.objProbe h o) = (s, { rv := CKR.GENERAL_ERROR }) := by
  simp [step, guardInit_of_init hi, stepObjProbe, hst, hres, hpriv, read_private_refused hnu, rOnly]

theorem C01_setAttr_private (tpl : Template) (oe : RV) :
    (step s (.setAttr h o tpl oe)).1 = s ∧ (step s (.setAttr h o tpl oe)).2.rv ≠ CKR.OK ∧
    (step s (.setAttr h o tpl oe)).2.nums = [] ∧ (step s (.setAttr h o tpl oe)).2.vals = [] := by
  simp [step, guardInit_of_init hi, stepSetAttr, hst, hres, hpriv, write_private_refused hnu, rOnly]

theorem C01_destroy_private :
    (step s (.destroy h o)).1 = s ∧ (step s (.destroy h o)).2.rv ≠ CKR.OK := by
  simp [step, guardInit_of_init hi, stepDestroy, hst, hres, hpriv, write_private_refused hnu, rOnly]

theorem C01_copy_private (tpl : Template) (oe : RV) :
    (step s (.copy h o tpl oe)).1 = s ∧ (step s (.copy h o tpl oe)).2.rv ≠ CKR.OK ∧
    (step s (.copy h o tpl oe)).2.nums = [] := by
  simp [step, guardInit_of_init hi, stepCopy, hst, hres, hpriv, read_private_refused hnu, rOnly]

end

/-- private objects cannot be created outside the user states -/
theorem C01_create_private_refused (s : State) (h : Nat) (ss : Sess) (t : Tok) (tpl : Template) (oe : RV) (info : ObjInfo)
    (hi : s.initialised = true) (hst : sessTok s h = some (ss, t)) (hinfo : extractObjectInformation tpl = .ok info)
    (hpriv : info.isPriv = true) (hnu : isUserState (stateOf t ss.rw) = false) :
    (step s (.create h tpl oe)).1 = s ∧ (step s (.create h tpl oe)).2.rv ≠ CKR.OK ∧ (step s (.create h tpl oe)).2.nums = [] := by
  simp [step, guardInit_of_init hi, stepCreate, hst, hinfo, hpriv, write_private_refused hnu, rOnly]

/-- token objects can be created only through read-write sessions -/
theorem C01_create_token_needs_rw (s : State) (h : Nat) (ss : Sess) (t : Tok) (tpl : Template) (oe : RV) (info : ObjInfo)
    (hi : s.initialised = true) (hst : sessTok s h = some (ss, t)) (hinfo : extractObjectInformation tpl = .ok info)
    (htok : info.onToken = true) (hro : isRW (stateOf t ss.rw) = false) :
    (step s (.create h tpl oe)).1 = s ∧ (step s (.create h tpl oe)).2.rv ≠ CKR.OK := by
  simp [step, guardInit_of_init hi, stepCreate, hst, hinfo, htok, write_token_refused hro, rOnly]

/-- … changed … -/
theorem C01_setAttr_token_needs_rw (s : State) (h o : Nat) (ss : Sess) (t : Tok) (e : ObjH) (ob : Obj) (tpl : Template) (oe : RV)
    (hi : s.initialised = true) (hst : sessTok s h = some (ss, t)) (hres : resolveObj s o = some (e, ob))
    (htok : ob.onToken = true) (hro : isRW (stateOf t ss.rw) = false) :
    (step s (.setAttr h o tpl oe)).1 = s ∧ (step s (.setAttr h o tpl oe)).2.rv ≠ CKR.OK := by
  simp [step, guardInit_of_init hi, stepSetAttr, hst, hres, htok, write_token_refused hro, rOnly]

/-- … or destroyed only through read-write sessions -/
theorem C01_destroy_token_needs_rw (s : State) (h o : Nat) (ss : Sess) (t : Tok) (e : ObjH) (ob : Obj)
    (hi : s.initialised = true) (hst : sessTok s h = some (ss, t)) (hres : resolveObj s o = some (e, ob))
    (htok : ob.onToken = true) (hro : isRW (stateOf t ss.rw) = false) :
    (step s (.destroy h o)).1 = s ∧ (step s (.destroy h o)).2.rv ≠ CKR.OK := by
  simp [step, guardInit_of_init hi, stepDestroy, hst, hres, htok, write_token_refused hro, rOnly]

/-- the SO session is not a user state: the SO is refused like a public session -/
theorem C01_so_is_not_user (t : Tok) (rw : Bool) (hso : t.soIn = true) : isUserState (stateOf t rw) = false := by
  simp [stateOf, hso, isUserState]

/-- outside the user states no private object is a candidate of a search -/
theorem C01_find_candidates_public (st : SState) (o : Obj) (hnu : isUserState st = false) (hv : visible st o = true) :
    o.isPriv = false := by
  cases hp : o.isPriv with
  | false => rfl
  | true => revert hnu hv; rw [visible, hp]; cases st <;> decide

open Shm.C11 in
/-- **NOT the property - the finding, stated on the model**: C_Logout invalidates the handles of private objects but leaves every session as it was, its active
    operation included.  An operation that was started with a private key while the user was logged in therefore goes on in a public session (the model says so
    because the code does so; K01-op-after-logout exhibits it on the library; listed in known_findings.txt).  PKCS#11 leaves open whether operations survive a
    logout; the property does not. -/
theorem C01_partial_operations_survive_logout (s : State) (hwf : s.WF) (hi : s.initialised = true) (h : Nat) (ss : Sess) (t : Tok)
    (hs : s.handles.getSess h = some ss) (ht : findTok s.slots ss.slot = some t) (k : Nat) (sk : Sess) (hk : s.handles.getSess k = some sk) :
    (step s (.logout h)).1.handles.getSess k = some sk := by
  -- what dies on logout is a private object's handle (`privOn`), never a session
  rw [HTable.getSess, (C11_purge_logout s hwf hi h ss t hs ht k).2, getSess_get hk]
  rfl

end Shm.C01
