/-
  C15 — processes sharing a token directory see each other's committed changes.

  The multi-process model (Shm/Model/Multi.lean): every process is an instance of the single-process model; when control passes from process `p` to
  process `q`, `q` continues with its own sessions, handles, login state and session objects and with the token objects `p` left (`adopt`); a process
  that starts later begins from what is on disk (`spawn`).  The theorems say what this hand-over guarantees for every pair of states; K15 checks that
  real processes behave like this model on interleavings at call granularity.
-/
import Shm.Model.Multi
import Shm.Lemmas.MultiInv
import Shm.Props.C05
namespace Shm.C15

/-- **the next process sees exactly the committed store**: when `q` lists the tokens that hold `p`'s token objects, its view of the token objects after the
    hand-over is `p`'s — every object `p` created or changed is there with its new attribute values, every object `p` destroyed is gone, nothing is duplicated -/
theorem C15_adopt_view (q p : State) (hc : ∀ o ∈ p.objs, o.onToken = true → (slotIn q p o.slot).isSome) :
    C05.tokView (adopt q p) = C05.tokView p := by
  unfold C05.tokView adopt
  simp only [List.filter_append, List.map_append]
  have h2 : (q.objs.filter fun o => !o.onToken).filter (·.onToken) = [] := by
    simp [List.filter_filter]
  rw [h2, List.map_nil, List.append_nil]
  refine map_filterMap_token _ _ _ fun o ho ht => ?_
  obtain ⟨id, hs⟩ := Option.isSome_iff_exists.mp (hc o ho ht)
  exact ⟨{ o with slot := id }, by simp [carry, hs], rfl, ht⟩

/-- **what stays private to a process**: sessions, handles, the handle counter, login state and configuration of `q` are untouched by the hand-over … -/
theorem C15_adopt_keeps_own (q p : State) :
    (adopt q p).handles = q.handles ∧ (adopt q p).slots = q.slots ∧ (adopt q p).counter = q.counter ∧
    (adopt q p).initialised = q.initialised ∧ (adopt q p).mechCfg = q.mechCfg := ⟨rfl, rfl, rfl, rfl, rfl⟩

/-- … and so are its session objects; no session object of `p` ever reaches `q` -/
theorem C15_adopt_session_objects (q p : State) :
    (adopt q p).objs.filter (fun o => !o.onToken) = q.objs.filter (fun o => !o.onToken) := by
  unfold adopt
  simp only [List.filter_append, List.filter_filter, Bool.and_self]
  have : ((p.objs.filter (·.onToken)).filterMap (carry q p)).filter (fun o => !o.onToken) = [] := by
    rw [List.filter_eq_nil_iff]
    intro o ho
    rw [List.mem_filterMap] at ho
    obtain ⟨o0, h0, h1⟩ := ho
    rw [List.mem_filter] at h0
    rw [carry_eq h1]
    simp [h0.2]
  rw [this, List.nil_append]

/-- **a handle to an object another process destroyed is dead**: if `p`'s store holds no token object with the identity a handle of `q` refers to, and `q` has
    no session object of that identity, the handle resolves to nothing in `q`'s next call (every call on it answers CKR_OBJECT_HANDLE_INVALID) -/
theorem C15_destroyed_handle_dead (q p : State) (h : Nat) (e : ObjH) (he : q.handles.getObjH h = some e)
    (hgone : ∀ o ∈ p.objs, o.onToken = true → o.oid ≠ e.oid) (hsess : ∀ o ∈ q.objs, o.onToken = false → o.oid ≠ e.oid) :
    resolveObj (adopt q p) h = none := by
  unfold resolveObj
  have hh : (adopt q p).handles = q.handles := rfl
  rw [hh, he]
  simp only [Option.map_eq_none_iff]
  unfold getObj
  rw [List.find?_eq_none]
  intro o ho
  rcases (adopt_handover q p).objs o ho with ⟨o0, h0, ht, he, _⟩ | ⟨h0, ht⟩
  · simp [he, hgone o0 h0 ht]
  · simp [hsess o h0 ht]

/-- **a process that starts later** finds on disk exactly the token objects the running process has committed -/
theorem C15_spawn_view (p : State) : C05.tokView (stepAny (spawn p) (.core .initLib)).1 = C05.tokView p :=
  C05.C05_restart_initialize p

/-- the hand-over as the coordinator performs it: whichever process runs next — a known one that lists the tokens, or a new one — starts its call on the store
    the last process left -/
theorem C15_switch_view_known (m : MState) (i : Nat) (q : State) (hi : i ≠ m.cur) (hq : m.lookup i = some q)
    (hc : ∀ o ∈ m.st.objs, o.onToken = true → (slotIn q m.st o.slot).isSome) :
    C05.tokView (m.switch i).st = C05.tokView m.st := by
  unfold MState.switch
  have : (i == m.cur) = false := by simpa using hi
  simp only [this, Bool.false_eq_true, if_false, hq]
  exact C15_adopt_view q m.st hc

/-- **no interleaving duplicates an object or mixes up identities**: after ANY sequence of calls by ANY processes in ANY interleaving at call granularity, object
    identities are pairwise distinct in the process that ran last and in every other one, and the identity of a session object of one process occurs in no other process
    (so a session object can never be mistaken for, or overwrite, an object another process sees) -/
theorem C15_interleaving_no_duplicates (steps : List (Nat × AnyCall)) :
    OidNodup (mrun {} steps).st ∧
    ∀ e ∈ (mrun {} steps).procs, OidNodup e.2 ∧ Apart e.2 (mrun {} steps).st ∧ Apart (mrun {} steps).st e.2 := by
  have h := minv_run steps {} minv_init
  exact ⟨h.nodup, fun e he => ⟨(h.parked e he).nodup, (h.parked e he).out, (h.parked e he).inn⟩⟩

/-- … in particular what the next call sees of the committed store lists every object once -/
theorem C15_view_lists_once (steps : List (Nat × AnyCall)) : ((C05.tokView (mrun {} steps).st).map (·.1)).Nodup := by
  have h := (minv_run steps {} minv_init).nodup
  unfold C05.tokView
  rw [List.map_map]
  exact List.Nodup.sublist (List.Sublist.map _ List.filter_sublist) h

/-- non-vacuity: two processes that list one token under different slot numbers; an object created by the first is seen by the second under its own numbering -/
example :
    let tk : Tok := { label := [1], serial := [9], soPin := [1], userPin := none }
    let p : State := { slots := [{ id := 0, tok := some tk }], objs := [{ oid := 4, slot := 0, onToken := true, owner := 0, isPriv := false, attrs := [] }], nextOid := 5 }
    let q : State := { slots := [{ id := 77, tok := some tk }], objs := [{ oid := 2, slot := 77, onToken := false, owner := 1, isPriv := false, attrs := [] }], nextOid := 3 }
    (adopt q p).objs.map (fun o => (o.oid, o.slot)) = [(4, 77), (2, 77)] ∧ (adopt q p).nextOid = 5 := by decide

end Shm.C15
