/-
  C09 — A call that fails has no effect on objects.
-/
import Shm.Lemmas.StepEdits
import Shm.Lemmas.Attrs
namespace Shm.C09

/-- the object-management calls of the model -/
def isObjectCall : Call → Bool
  | .create _ _ _ | .copy _ _ _ _ | .setAttr _ _ _ _ | .destroy _ _ => true
  | _ => false

/-- A failing object-management call changes nothing at all: not the objects (their set and every attribute
    value), not the handle table, not the tokens.  The template may be invalid at any position: `saveTemplate`
    either commits the whole template or reports the error and the object keeps its attributes. -/
theorem C09_failed_call_frame (s : State) (c : Call) (hc : isObjectCall c = true)
    (hf : (step s c).2.rv ≠ CKR.OK) : (step s c).1 = s :=
  (step_failFrame s c hf).resolve_right fun h => by cases c <;> cases hc <;> cases h.1

/-- `saveTemplate` never hands back a partially applied template: on an error it returns only the code -/
theorem C09_saveTemplate_all_or_nothing (cd : ClassDesc) (o : Attrs) (tpl : Template) (op : Nat) (p so : Bool) (oRv : RV) :
    (∃ rv, saveTemplate cd o tpl op p so oRv = .error rv) ∨
    (∃ o', saveTemplate cd o tpl op p so oRv = .ok o' ∧ (applyEntries cd op p so oRv tpl o) = (CKR.OK, o')) := by
  cases h : saveTemplate cd o tpl op p so oRv with
  | error rv => exact Or.inl ⟨rv, rfl⟩
  | ok o' => exact Or.inr ⟨o', rfl, saveTemplate_ok h⟩

end Shm.C09
