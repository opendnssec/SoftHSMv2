/-
  C16 — a crash at any point leaves the token usable and loses nothing committed.

  What a theorem can carry here: (a) a process death BETWEEN calls (every file is complete and flushed: the write-through
  abstraction of C05) loses nothing — the restart theorems; (b) what the loader makes of a torn file, for every cut point.
  What happens when the process dies INSIDE a call is decided by the crash-point enumeration K16 against the real library, with
  this model as the oracle for the two admissible outcomes.
-/
import Shm.Props.C05
import Shm.Props.C14
namespace Shm.C16
open Shm.Store

/-- **between calls nothing is lost**: after any history, a process death followed by C_Initialize yields exactly the token objects
    (identity, privacy, attributes) the store had — no committed object is lost, changed or duplicated, no session object survives -/
theorem C16_restart_loses_nothing (cs : List AnyCall) :
    let s := runAny {} cs
    C05.tokView (stepAny (stepAny s .restart).1 (.core .initLib)).1 = C05.tokView s :=
  C05.C05_restart_initialize _

/-- … and every token record (label, serial, both PINs, stored flags) survives; only the login state is dropped -/
theorem C16_restart_keeps_tokens (s : State) (id : Nat) :
    findTok (stepRestart s).1.slots id = (findTok s.slots id).map Tok.logout := C14.C14_restart s id

/-- **torn files, cut inside the generation word**: fewer than 8 bytes are an object without attributes (since the fix 8179b37: not presented as an object) -/
theorem C16_cut_in_generation (bs : Bytes) (h1 : bs ≠ []) (h2 : bs.length < 8) : decodeFile bs = .valid none [] := by
  unfold decodeFile
  have : bs.isEmpty = false := by cases bs <;> simp_all
  simp [this, rdULong, h2]

/-- **torn files, cut at an attribute boundary**: accepted as a valid object carrying exactly the attributes written so far -/
theorem C16_cut_at_boundary (gen : Nat) (attrs : FAttrs) (k : Nat) (hg : gen < 2^64) (h : AttrsWF attrs) :
    decodeFile (be8 gen ++ (attrs.take k).flatMap encAttr) = .valid (some gen) (attrs.take k) :=
  C05.C05_truncated_at_boundary_is_valid gen attrs k hg h

/-- **torn files, cut inside the kind word or a fixed-size value of the next attribute**: rejected ("Corrupt object file") -/
theorem C16_cut_inside_kind (gen : Nat) (attrs : FAttrs) (ty : Nat) (part : Bytes) (hg : gen < 2^64) (h : AttrsWF attrs) (ht : ty < 2^64)
    (hp : part.length < 8) :
    decodeFile (be8 gen ++ (attrs.flatMap encAttr ++ (be8 ty ++ part))) = .invalid := by
  -- the complete attributes are read; what decides is the tail: a type word, then fewer than 8 bytes for the kind
  obtain ⟨f, hf⟩ := decodeFile_prefix gen attrs (be8 ty ++ part) hg h
  rw [hf]; simp only [rdAttrs, rdULong_be8 _ _ ht]; simp [rdULong, hp]

end Shm.C16
