/-
  C12 — One active operation per session and an honest output-length protocol.
  About the model of Ops.lean (tie: K12, exhaustive small scope + histories against the library).
-/
import Shm.Lemmas.Local
namespace Shm.C12

/-- starting a keyed operation while another one is active: CKR_OPERATION_ACTIVE, nothing changes -/
theorem C12_opInit_active (s : State) (kind : InitKind) (h mech : Nat) (p : MParam) (key : Nat) (oRv : RV) (ss : Sess)
    (hs : s.handles.getSess h = some ss) (hop : ss.op ≠ .none) :
    stepOpInit s kind h mech p key oRv = (s, { rv := CKR.OPERATION_ACTIVE }) := by
  have : (ss.op != OpKind.none) = true := bne_iff_ne.mpr hop
  simp [stepOpInit, initGuards, hs, this, rOnly]

theorem C12_digestInit_active (s : State) (h mech : Nat) (oRv : RV) (ss : Sess)
    (hs : s.handles.getSess h = some ss) (hop : ss.op ≠ .none) :
    stepDigestInit s h mech oRv = (s, { rv := CKR.OPERATION_ACTIVE }) := by
  have : (ss.op != OpKind.none) = true := bne_iff_ne.mpr hop
  simp [stepDigestInit, hs, this, rOnly]

/-- the same for C_FindObjectsInit -/
theorem C12_findInit_active (s : State) (h : Nat) (tpl : Template) (m : List (Nat × Bytes)) (ss : Sess) (t : Tok)
    (hst : sessTok s h = some (ss, t)) (hop : ss.op ≠ .none) :
    stepFindInit s h tpl m = (s, { rv := CKR.OPERATION_ACTIVE }) := by
  have : (ss.op != OpKind.none) = true := bne_iff_ne.mpr hop
  simp [stepFindInit, hst, this, rOnly]

/-- continuing an operation of another kind (or none): CKR_OPERATION_NOT_INITIALIZED, nothing changes -/
theorem C12_wrong_kind (s : State) (h : Nat) (ss : Sess) (hs : s.handles.getSess h = some ss) (n : Nat) (cap : Option Nat) (o : OutObs) :
    (ss.op ≠ .encrypt → stepCrypt s true h (some n) cap o.rv o.len o.data = (s, { rv := CKR.OPERATION_NOT_INITIALIZED }) ∧
                        stepCryptUpdate s true h (some n) cap o.rv o.data = (s, { rv := CKR.OPERATION_NOT_INITIALIZED }) ∧
                        stepCryptFinal s true h cap o.rv o.len o.data = (s, { rv := CKR.OPERATION_NOT_INITIALIZED })) ∧
    (ss.op ≠ .decrypt → stepCrypt s false h (some n) cap o.rv o.len o.data = (s, { rv := CKR.OPERATION_NOT_INITIALIZED }) ∧
                        stepCryptUpdate s false h (some n) cap o.rv o.data = (s, { rv := CKR.OPERATION_NOT_INITIALIZED }) ∧
                        stepCryptFinal s false h cap o.rv o.len o.data = (s, { rv := CKR.OPERATION_NOT_INITIALIZED })) ∧
    (ss.op ≠ .sign → stepSignLike s .sign h (some n) cap o.rv o.data = (s, { rv := CKR.OPERATION_NOT_INITIALIZED }) ∧
                     stepUpdateLike s .sign h (some n) o.rv = (s, { rv := CKR.OPERATION_NOT_INITIALIZED }) ∧
                     stepFinalLike s .sign h cap o.rv o.data = (s, { rv := CKR.OPERATION_NOT_INITIALIZED })) ∧
    (ss.op ≠ .digest → stepSignLike s .digest h (some n) cap o.rv o.data = (s, { rv := CKR.OPERATION_NOT_INITIALIZED }) ∧
                       stepUpdateLike s .digest h (some n) o.rv = (s, { rv := CKR.OPERATION_NOT_INITIALIZED }) ∧
                       stepFinalLike s .digest h cap o.rv o.data = (s, { rv := CKR.OPERATION_NOT_INITIALIZED })) ∧
    (ss.op ≠ .find → stepFind s h n = (s, { rv := CKR.OPERATION_NOT_INITIALIZED }) ∧
                     stepFindFinal s h = (s, { rv := CKR.OPERATION_NOT_INITIALIZED })) := by
  refine ⟨?_, ?_, ?_, ?_, ?_⟩ <;> intro hk
  · have : (ss.op != OpKind.encrypt) = true := bne_iff_ne.mpr hk
    simp [stepCrypt, stepCryptUpdate, stepCryptFinal, hs, this, rOnly]
  · have : (ss.op != OpKind.decrypt) = true := bne_iff_ne.mpr hk
    simp [stepCrypt, stepCryptUpdate, stepCryptFinal, hs, this, rOnly]
  · have : (ss.op != OpKind.sign) = true := bne_iff_ne.mpr hk
    simp [stepSignLike, stepUpdateLike, stepFinalLike, hs, this, rOnly]
  · have : (ss.op != OpKind.digest) = true := bne_iff_ne.mpr hk
    simp [stepSignLike, stepUpdateLike, stepFinalLike, hs, this, rOnly]
  · have : (ss.op != OpKind.find) = true := bne_iff_ne.mpr hk
    simp [stepFind, stepFindFinal, hs, this, rOnly]

/-! ### the length protocol leaves the operation untouched -/

/-- the shared "report / check / produce" step: a NULL output pointer or a too small buffer changes nothing and reports
    the needed length -/
theorem C12_lenProto_query (s : State) (h : Nat) (ss : Sess) (need : Nat) (produce : State × Resp) :
    lenProto s h ss need none produce = (s, { rv := CKR.OK, nums := [need] }) ∧
    ∀ c, c < need → lenProto s h ss need (some c) produce = (s, { rv := CKR.BUFFER_TOO_SMALL, nums := [need] }) := by
  refine ⟨rfl, ?_⟩
  intro c hc
  simp [lenProto, hc]

theorem startOp_fail (s : State) (h : Nat) (ss : Sess) (k : OpKind) (late : Option RV) (d : OpDetail)
    (hf : (startOp s h ss k late d).2.rv ≠ CKR.OK) : (startOp s h ss k late d).1 = s := by
  unfold startOp at *
  cases late <;> simp_all [rOnly]

/-- an `*Init` that does not return CKR_OK leaves everything as it was (in particular no operation becomes active) -/
theorem C12_failed_init_frame (s : State) (kind : InitKind) (h mech : Nat) (p : MParam) (key : Nat) (oRv : RV)
    (hf : (stepOpInit s kind h mech p key oRv).2.rv ≠ CKR.OK) : (stepOpInit s kind h mech p key oRv).1 = s := by
  revert hf
  unfold stepOpInit
  split
  · simp [rOnly]
  · dsimp only
    split <;> repeat' split
    all_goals first | (intro _; rfl) | exact startOp_fail _ _ _ _ _ _

theorem C12_failed_digestInit_frame (s : State) (h mech : Nat) (oRv : RV)
    (hf : (stepDigestInit s h mech oRv).2.rv ≠ CKR.OK) : (stepDigestInit s h mech oRv).1 = s := by
  revert hf
  unfold stepDigestInit
  repeat' split
  all_goals first | (intro _; rfl) | (intro hh; exact absurd rfl hh)

/-- C_EncryptUpdate / C_DecryptUpdate: CKR_BUFFER_TOO_SMALL (and the NULL-pointer query) leave the whole state — the operation
    and the cipher's buffered count included — exactly as it was -/
theorem C12_update_query_frame (s : State) (enc : Bool) (h : Nat) (n : Nat) (cap : Option Nat) (oRv : RV) (od : Option Bytes)
    (hq : (stepCryptUpdate s enc h (some n) cap oRv od).2.rv = CKR.BUFFER_TOO_SMALL ∨
          (cap = none ∧ (stepCryptUpdate s enc h (some n) cap oRv od).2.rv = CKR.OK)) :
    (stepCryptUpdate s enc h (some n) cap oRv od).1 = s :=
  quiet_cryptUpdate s enc h n cap oRv od hq

/-- C_EncryptFinal / C_DecryptFinal -/
theorem C12_final_query_frame (s : State) (enc : Bool) (h : Nat) (cap : Option Nat) (oRv : RV) (ol : Nat) (od : Option Bytes)
    (hq : (stepCryptFinal s enc h cap oRv ol od).2.rv = CKR.BUFFER_TOO_SMALL ∨
          (cap = none ∧ (stepCryptFinal s enc h cap oRv ol od).2.rv = CKR.OK)) :
    (stepCryptFinal s enc h cap oRv ol od).1 = s :=
  quiet_cryptFinal s enc h cap oRv ol od hq

/-- C_Sign / C_Digest / C_SignFinal / C_DigestFinal -/
theorem C12_signlike_query_frame (s : State) (kind : OpKind) (h : Nat) (n : Nat) (cap : Option Nat) (oRv : RV) (od : Option Bytes) :
    (((stepSignLike s kind h (some n) cap oRv od).2.rv = CKR.BUFFER_TOO_SMALL ∨
      (cap = none ∧ (stepSignLike s kind h (some n) cap oRv od).2.rv = CKR.OK)) → (stepSignLike s kind h (some n) cap oRv od).1 = s) ∧
    (((stepFinalLike s kind h cap oRv od).2.rv = CKR.BUFFER_TOO_SMALL ∨
      (cap = none ∧ (stepFinalLike s kind h cap oRv od).2.rv = CKR.OK)) → (stepFinalLike s kind h cap oRv od).1 = s) :=
  ⟨quiet_signLike s kind h n cap oRv od, quiet_finalLike s kind h cap oRv od⟩

/-! ### the reported length is bounded and sufficient -/

/-- C_EncryptUpdate / C_DecryptUpdate: the length reported by a query is at most input + buffered bytes, and the bytes an
    accepted call returns are at most that length -/
theorem C12_update_lengths (c : Cipher) (n : Nat) :
    (if isBlock c then
       (if c.encrypt then ((n + c.buffered) / c.bs) * c.bs
        else (((n + c.buffered) - (if c.padding && (n + c.buffered) ≥ 1 then 1 else 0)) / c.bs) * c.bs)
     else (n + c.buffered)) ≤ n + c.buffered ∧
    updOut c (n + c.buffered) n ≤
      (if isBlock c then
         (if c.encrypt then ((n + c.buffered) / c.bs) * c.bs
          else (((n + c.buffered) - (if c.padding && (n + c.buffered) ≥ 1 then 1 else 0)) / c.bs) * c.bs)
       else (n + c.buffered)) := by
  obtain ⟨enc, bs, mode, pad, tag, buf, lim⟩ := c
  have hdiv : ∀ x : Nat, (x / bs) * bs ≤ x := fun x => Nat.div_mul_le_self x bs
  constructor
  · simp only [isBlock]
    split
    · split
      · exact hdiv _
      · exact Nat.le_trans (hdiv _) (Nat.sub_le _ _)
    · exact Nat.le_refl _
  · simp only [updOut, isBlock]
    by_cases hn : n = 0
    · simp [hn]
    · have hn' : (n == 0) = false := by simp [hn]
      have h1 : 1 ≤ n + buf := by omega
      simp only [hn']
      cases mode <;> cases enc <;> cases pad <;> simp [h1]

/-- C_EncryptFinal: what is reported is what is produced, at most buffered + one block + the tag -/
theorem C12_encFinal_bound (c : Cipher) (hbs : 0 < c.bs) :
    (if isBlock c then (if c.padding then ((c.buffered + c.tagBytes + c.bs) / c.bs) * c.bs else c.buffered + c.tagBytes)
     else c.buffered + c.tagBytes) ≤ c.buffered + c.bs + c.tagBytes := by
  split
  · split
    · have := Nat.div_mul_le_self (c.buffered + c.tagBytes + c.bs) c.bs; omega
    · omega
  · omega

/-- single-part C_Encrypt: the reported length is at most input + one block + the tag, and it is exactly what is produced -/
theorem C12_encrypt_bound (c : Cipher) (n : Nat) (hbs : 0 < c.bs) :
    (if isBlock c then (if n % c.bs != 0 then n + c.bs - n % c.bs else if c.padding then n + c.bs else n) else n + c.tagBytes)
      ≤ n + c.bs + c.tagBytes := by
  split
  · split
    · omega
    · split <;> omega
  · omega

/-- **a final call that fails ends the operation**: C_SignFinal / C_VerifyFinal on an active signing / verification operation of a single-part-only mechanism
    (CKM_RSA_PKCS, CKM_RSA_X_509, CKM_ECDSA, CKM_EDDSA, ...) answer CKR_OPERATION_NOT_INITIALIZED and leave the session with NO active operation (`resetOp`), so that the
    next C_SignInit / C_VerifyInit is not refused with CKR_OPERATION_ACTIVE.  (The pinned tree returned the error without ending the operation: repaired, see
    known_findings.txt `fixed:`; the exhaustive call orders of K12 compare exactly this.) -/
theorem C12_final_on_singlepart_ends_operation (s : State) (h : Nat) (ss : Sess) (hs : s.handles.getSess h = some ss) (hm : ss.opd.multi = false)
    (cap : Option Nat) (oRv : RV) (od : Option Bytes) :
    (ss.op = .sign → stepFinalLike s .sign h cap oRv od = (resetOp s h ss, { rv := CKR.OPERATION_NOT_INITIALIZED })) ∧
    (ss.op = .verify → ∀ n sl, stepVerify s false h (some n) (some sl) oRv = (resetOp s h ss, { rv := CKR.OPERATION_NOT_INITIALIZED })) := by
  constructor
  · intro hop
    simp [stepFinalLike, hs, hop, hm]
  · intro hop n sl
    simp [stepVerify, hs, hop, hm]

/-- the session that `resetOp` leaves has no operation -/
theorem C12_resetOp_none (s : State) (h : Nat) (ss : Sess) :
    ∃ ss', (resetOp s h ss).handles = s.handles.setSess h ss' ∧ ss'.op = .none := ⟨_, rfl, rfl⟩

end Shm.C12
