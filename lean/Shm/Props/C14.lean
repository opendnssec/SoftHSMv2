/-
  C14 — token initialisation, re-initialisation and isolation between tokens.
-/
import Shm.Lemmas.Pins
namespace Shm.C14

/-! ### C_InitToken is exact -/

/-- **C_InitToken**: it succeeds only without open sessions on that slot and with a PIN of admissible length; on the free slot it
    creates a token with the given label and SO PIN and no user PIN; on an initialised token it succeeds only with that token's
    SO PIN and then removes exactly that token's token objects and its user PIN, keeps the SO PIN and the serial, and sets the new label.
    A refused call changes no token record except the SO-PIN-count-low flag after a wrong PIN, and no object. -/
theorem C14_initToken (s : State) (slot : Nat) (pin : Option Bytes) (label oSerial : Bytes) :
    let r := stepInitToken s slot pin label oSerial
    (r.2.rv = CKR.OK →
      ∃ sl p, findSlot s.slots slot = some sl ∧ s.handles.haveSession slot = false ∧ pin = some p ∧ pinLenOk p = true ∧
        ((sl.tok = none ∧ r.1.slots = setTok s.slots slot { label := label, serial := oSerial, soPin := p, userPin := none } ∧ r.1.objs = s.objs) ∨
         (∃ t, sl.tok = some t ∧ p = t.soPin ∧
            r.1.slots = setTok s.slots slot { t with label := label, userPin := none, soLow := false, userLow := false, soIn := false, userIn := false } ∧
            r.1.objs = s.objs.filter fun o => !(o.onToken && o.slot == slot)))) ∧
    (r.2.rv ≠ CKR.OK → r.1.objs = s.objs ∧ ∀ id, pinOf r.1.slots id = pinOf s.slots id) := by
  intro r
  show (r.2.rv = CKR.OK → _) ∧ (r.2.rv ≠ CKR.OK → _)
  simp only [r]
  unfold stepInitToken
  cases hsl : findSlot s.slots slot with
  | none => simp [rOnly]
  | some sl =>
    dsimp only
    by_cases hse : s.handles.haveSession slot = true
    · simp [hse, rOnly]
    · rw [if_neg hse]
      cases pin with
      | none => simp [rOnly]
      | some p =>
        dsimp only
        by_cases hl : (!pinLenOk p) = true
        · simp [hl, rOnly]
        · rw [if_neg hl]
          cases htk : sl.tok with
          | none =>
            refine ⟨fun _ => ⟨sl, p, rfl, by simpa using hse, rfl, by simpa using hl, Or.inl ⟨htk, rfl, rfl⟩⟩, fun hne => absurd rfl hne⟩
          | some t =>
            dsimp only
            have hft := findTok_of_findSlot hsl htk
            by_cases hp : (p != t.soPin) = true
            · simp only [hp, if_true]
              refine ⟨fun h => by simp at h, fun _ => ⟨trivial, fun id => pinOf_setTok_same _ _ _ _ hft (by rfl) (by rfl) id⟩⟩
            · rw [if_neg hp]
              refine ⟨fun _ => ⟨sl, p, rfl, by simpa using hse, rfl, by simpa using hl, Or.inr ⟨t, htk, by simpa using hp, rfl, rfl⟩⟩, fun hne => absurd rfl hne⟩

/-- after a successful initialisation of the last free slot, C_GetSlotList shows a new free slot -/
theorem C14_new_free_slot (ss : List Slot) : (ensureFreeSlot ss).any (·.tok.isNone) = true ∨ ∃ sl ∈ ss, sl.id = tokenCount ss := by
  unfold ensureFreeSlot
  split
  · left; assumption
  · dsimp only
    split
    · next h => right; simpa using h
    · left; simp

/-- the persistent record of a token: label, serial, both PINs and the flags that are stored (login state is not) -/
def tokRecord (t : Tok) : Bytes × Bytes × Bytes × Option Bytes × Bool × Bool := (t.label, t.serial, t.soPin, t.userPin, t.soLow, t.userLow)

/-- **C_Initialize finds every token again**, with label, serial, PINs and stored flags unchanged, nobody logged in, in the slot
    computed from its serial number (`strtoul(last 8 characters, 16) & 0x7FFFFFFF`) -/
theorem C14_initialize (s : State) (hi : s.initialised = false) :
    ∀ sl' ∈ (stepInitialize s).1.slots, ∀ t', sl'.tok = some t' →
      sl'.id = slotIdOfSerial t'.serial ∧ t'.soIn = false ∧ t'.userIn = false ∧
      ∃ sl ∈ s.slots, ∃ t, sl.tok = some t ∧ tokRecord t = tokRecord t' := by
  intro sl' hm t' ht'
  obtain ⟨sl, hsl, t, ht, rfl⟩ := mem_stepInitialize_slots hi hm ht'
  cases ht'
  exact ⟨rfl, rfl, rfl, sl, hsl, t, ht, rfl⟩

/-- … and no token is lost: every token of the store is in some slot afterwards -/
theorem C14_initialize_complete (s : State) (hi : s.initialised = false) :
    ∀ sl ∈ s.slots, ∀ t, sl.tok = some t →
      ∃ sl' ∈ (stepInitialize s).1.slots, ∃ t', sl'.tok = some t' ∧ tokRecord t' = tokRecord t ∧ sl'.id = slotIdOfSerial t.serial := by
  intro sl hm t ht
  obtain ⟨free, he, -⟩ := stepInitialize_slots s hi
  exact ⟨reslot t, he ▸ List.mem_append_left _ (List.mem_filterMap.mpr ⟨sl, hm, by rw [ht]; rfl⟩), _, rfl, rfl, rfl⟩

/-- a process restart (with or without C_Finalize) keeps every token record; only the login state is dropped -/
theorem C14_restart (s : State) (id : Nat) :
    findTok (stepRestart s).1.slots id = (findTok s.slots id).map Tok.logout := by
  simp only [stepRestart, stepFinalize, Bool.not_true, Bool.false_eq_true, if_false]
  exact findTok_map_logout s.slots id

/-! ### isolation at the level of token records, PINs and login state -/

def TokKept (a : Nat) (s s' : State) : Prop := ∀ b, b ≠ a → findTok s'.slots b = findTok s.slots b

/-- **isolation**: a call addressed to slot `a` — through a session of that slot or by slot number — leaves the complete record of
    the token in every other slot untouched: label, serial, both PINs, flags, and who is logged in -/
theorem C14_token_isolation (s : State) (c : Call) (a : Nat) (ha : slotOfCall s c = some a) : TokKept a s (step s c).1 := fun b hb =>
  (step_edits s c (fun h => by subst h; cases ha) (fun h => by subst h; cases ha)).slots.findTok_other (ha ▸ fun e => hb (Option.some.inj e).symm)

/-- the cryptographic and key-generation calls change no token record at all -/
theorem C14_ops_keep_tokens (s : State) (c : OpCall) : (stepOp s c).1.slots = s.slots := (stepOp_creates s c).slots

/-- non-vacuity: re-initialising token 0 of two tokens with its SO PIN removes its object and user PIN and leaves token 1 alone -/
example :
    let t0 : Tok := { label := [0x41], serial := [0x30], soPin := [1, 2, 3, 4], userPin := some [5, 6, 7, 8] }
    let t1 : Tok := { label := [0x42], serial := [0x31], soPin := [4, 3, 2, 1], userPin := some [8, 7, 6, 5] }
    let s : State := { initialised := true, slots := [{ id := 0, tok := some t0 }, { id := 1, tok := some t1 }],
                       objs := [{ oid := 1, slot := 0, onToken := true, owner := 0, isPriv := false, attrs := [] },
                                { oid := 2, slot := 1, onToken := true, owner := 0, isPriv := false, attrs := [] }], nextOid := 3 }
    let r := stepInitToken s 0 (some [1, 2, 3, 4]) [0x43] []
    r.2.rv = CKR.OK ∧ r.1.objs.map (·.oid) = [2] ∧ pinOf r.1.slots 0 = some ([1, 2, 3, 4], none) ∧ findTok r.1.slots 1 = some t1 := by decide

end Shm.C14
