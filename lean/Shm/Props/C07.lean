/-
  C07 — Key usage flags, key type and mechanism restrictions are enforced.
  Model: Ops.lean; tie: K07 = the COMPLETE matrix operation × key kind × usage flag × mechanism × allowed list × configuration
  run against the library, and the generated mechanism registry (Gen.mechTable).
-/
import Shm.Model.Wrap
import Shm.Lemmas.ConfigLemmas
import Shm.Lemmas.Guards
namespace Shm.C07

/-! ### specification tables, written from PKCS#11 (independent of the model's dispatch tables) -/

/-- key types a mechanism may be used with for encryption/decryption -/
def cipherFits : List (Nat × List Nat) :=
  [(0x121, [0x13]), (0x122, [0x13]), (0x125, [0x13]),                                   -- DES
   (0x132, [0x14, 0x15]), (0x133, [0x14, 0x15]), (0x136, [0x14, 0x15]),                 -- DES3 with double/triple length keys
   (0x1081, [0x1F]), (0x1082, [0x1F]), (0x1085, [0x1F]), (0x1086, [0x1F]), (0x1087, [0x1F]),   -- AES
   (0x1, [0x0]), (0x3, [0x0]), (0x9, [0x0])]                                            -- RSA PKCS / X.509 / OAEP

/-- key types a mechanism may be used with for signing/verifying -/
def signFits : List (Nat × List Nat) :=
  [(0x211, [0x10, 0x27]), (0x221, [0x10, 0x28]), (0x256, [0x10, 0x2E]), (0x251, [0x10, 0x2B]), (0x261, [0x10, 0x2C]), (0x271, [0x10, 0x2D]),
   (0x138, [0x14, 0x15]), (0x108A, [0x1F]),
   (0x1, [0x0]), (0x3, [0x0]), (0x5, [0x0]), (0x6, [0x0]), (0x46, [0x0]), (0x40, [0x0]), (0x41, [0x0]), (0x42, [0x0]),
   (0xD, [0x0]), (0xE, [0x0]), (0x47, [0x0]), (0x43, [0x0]), (0x44, [0x0]), (0x45, [0x0]),
   (0x11, [0x1]), (0x12, [0x1]), (0x13, [0x1]), (0x14, [0x1]), (0x15, [0x1]), (0x16, [0x1]),
   (0x1041, [0x3]), (0x1057, [0x40])]

def fits (kind : InitKind) (mech kt : Nat) : Bool :=
  let tbl := match kind with | .encrypt | .decrypt => cipherFits | .sign | .verify => signFits
  match tbl.find? (·.1 == mech) with
  | some (_, kts) => kts.contains kt
  | none => false

/-- the model's dispatch tables agree with the specification tables: every arm, every key type it admits -/
theorem sym_tbl_fits : (symMechTbl.all fun e => e.2.1.all fun kt => fits .encrypt e.1 kt && fits .decrypt e.1 kt) = true := by decide
theorem mac_tbl_fits : (macMechTbl.all fun e => e.2.1.all fun kt => fits .sign e.1 kt && fits .verify e.1 kt) = true := by decide
theorem asymSig_tbl_fits : (asymSigMechTbl.all fun e => fits .sign e.1 e.2.1 && fits .verify e.1 e.2.1) = true := by decide
theorem asymEnc_tbl_fits : (asymEncMechTbl.all fun e => fits .encrypt e.1 e.2 && fits .decrypt e.1 e.2) = true := by decide

theorem sym_fits {m kt : Nat} {x : List Nat × Nat × CMode × Bool} (h : symMech m = some x) (hk : x.1.contains kt = true) :
    fits .encrypt m kt = true :=
  (Bool.and_eq_true _ _ ▸ List.all_eq_true.mp (tblFind_all sym_tbl_fits h) kt (by simpa using hk)).1

theorem mac_fits {m kt : Nat} {x : List Nat × Nat × Nat} (h : macMech m = some x) (hk : x.1.contains kt = true) :
    fits .sign m kt = true :=
  (Bool.and_eq_true _ _ ▸ List.all_eq_true.mp (tblFind_all mac_tbl_fits h) kt (by simpa using hk)).1

theorem asymSig_fits {m : Nat} {x : Nat × Bool} (h : asymSigMech m = some x) : fits .sign m x.1 = true :=
  (Bool.and_eq_true _ _ ▸ tblFind_all asymSig_tbl_fits h).1

theorem asymEnc_fits {m akt : Nat} (h : asymEncMech m = some akt) : fits .encrypt m akt = true :=
  (Bool.and_eq_true _ _ ▸ tblFind_all asymEnc_tbl_fits h).1

/-- `isMechanismPermitted`: enabled by the configuration AND (no allowed list or listed in it) -/
theorem C07_permitted_iff (cfg : MechCfg) (key : Attrs) (m : Nat) :
    mechPermitted cfg key m = true ↔
      (supportedMechs cfg).contains m = true ∧
      (match getA key 0x40000600 with | some (.mechs l) => l = [] ∨ l.contains m = true | _ => True) := by
  unfold mechPermitted
  cases h : getA key 0x40000600 with
  | none => simp
  | some v => cases v <;> simp [List.isEmpty_iff]

/-- what the guards in front of every keyed start function establish, or which error they produce (never CKR_OK) -/
theorem C07_guards (s : State) (kind : InitKind) (h mech keyH : Nat) :
    (∃ rv, initGuards s kind h mech keyH = .error rv ∧ rv ≠ CKR.OK) ∨
    (∃ ss t key e, initGuards s kind h mech keyH = .ok (ss, t, key) ∧
      s.handles.getSess h = some ss ∧ ss.op = .none ∧ resolveObj s keyH = some (e, key) ∧
      Gen.haveRead (stateOf t ss.rw) key.onToken key.isPriv = CKR.OK ∧
      getBoolD key.attrs kind.usage false = true ∧ mechPermitted s.mechCfg key.attrs mech = true) := by
  unfold initGuards
  cases hs : s.handles.getSess h with
  | none => exact Or.inl ⟨_, rfl, by decide⟩
  | some ss =>
    dsimp only
    by_cases hop : (ss.op != OpKind.none) = true
    · rw [if_pos hop]; exact Or.inl ⟨_, rfl, by decide⟩
    rw [if_neg hop]
    cases ht : findTok s.slots ss.slot with
    | none => exact Or.inl ⟨_, rfl, by decide⟩
    | some t =>
      cases hres : resolveObj s keyH with
      | none => exact Or.inl ⟨_, rfl, by decide⟩
      | some r =>
        obtain ⟨e, key⟩ := r
        dsimp only
        by_cases hacc : (Gen.haveRead (stateOf t ss.rw) key.onToken key.isPriv != CKR.OK) = true
        · rw [if_pos hacc]; exact Or.inl ⟨_, rfl, bne_iff_ne.mp hacc⟩
        rw [if_neg hacc]
        by_cases hus : (!getBoolD key.attrs kind.usage false) = true
        · rw [if_pos hus]; exact Or.inl ⟨_, rfl, by decide⟩
        rw [if_neg hus]
        by_cases hp : (!mechPermitted s.mechCfg key.attrs mech) = true
        · rw [if_pos hp]; exact Or.inl ⟨_, rfl, by decide⟩
        rw [if_neg hp]
        exact Or.inr ⟨ss, t, key, e, rfl, rfl, by simpa using hop, rfl, by simpa using hacc, by simpa using hus, by simpa using hp⟩

/-- C_EncryptInit / C_DecryptInit / C_SignInit / C_VerifyInit succeed ONLY IF the key's usage attribute is true, the key type fits the
    mechanism, the mechanism is enabled by slots.mechanisms and allowed by CKA_ALLOWED_MECHANISMS (when non-empty), no other operation is
    active, and the session may read the key -/
theorem C07_main (s : State) (kind : InitKind) (h mech : Nat) (p : MParam) (keyH : Nat) (oRv : RV)
    (hok : (stepOpInit s kind h mech p keyH oRv).2.rv = CKR.OK) :
    ∃ ss key e, s.handles.getSess h = some ss ∧ ss.op = .none ∧ resolveObj s keyH = some (e, key) ∧
      getBoolD key.attrs kind.usage false = true ∧ mechPermitted s.mechCfg key.attrs mech = true ∧
      fits kind mech (getULongD key.attrs CKA.KEY_TYPE 0x80000000) = true := by
  rcases C07_guards s kind h mech keyH with ⟨rv, hg, hne⟩ | ⟨ss, t, key, e, hg, hs, hop, hres, _, hus, hperm⟩
  · unfold stepOpInit at hok; simp only [hg, rOnly] at hok; exact absurd hok hne
  · refine ⟨ss, key, e, hs, hop, hres, hus, hperm, ?_⟩
    unfold stepOpInit at hok
    simp only [hg] at hok
    cases kind <;> simp only [] at hok
    case encrypt | decrypt =>
      show fits .encrypt mech _ = true      -- decryption uses the table of encryption
      split at hok
      · rename_i kts bs mode pad hsm
        exact sym_fits hsm (by simpa using (ite_refuse _ _ _ (by decide) hok).1)
      split at hok
      · rename_i akt ham
        have := (ite_refuse _ _ _ (by decide) hok).1
        rw [show getULongD key.attrs CKA.KEY_TYPE 0x80000000 = akt by simpa using this]; exact asymEnc_fits ham
      · exact absurd hok (by decide : CKR.MECHANISM_INVALID ≠ CKR.OK)
    case sign | verify =>
      show fits .sign mech _ = true         -- verification that of signing
      split at hok
      · rename_i kts mn ml hmm
        exact mac_fits hmm (by simpa using (ite_refuse _ _ _ (by decide) hok).1)
      split at hok
      · rename_i akt multi ham
        -- the arms validate PSS parameters (observed as CKR_ARGUMENTS_BAD) before the key type is compared
        split at hok
        · rename_i hc; exact absurd (hok.symm.trans (beq_iff_eq.mp hc)) (by decide)
        have := (ite_refuse _ _ _ (by decide) hok).1
        rw [show getULongD key.attrs CKA.KEY_TYPE 0x80000000 = akt by simpa using this]; exact asymSig_fits ham
      · exact absurd hok (by decide : CKR.MECHANISM_INVALID ≠ CKR.OK)

/-- a mechanism that slots.mechanisms removed is refused by EVERY entry point that takes a mechanism:
    the four keyed start functions, C_DigestInit, C_GenerateKey and C_GenerateKeyPair -/
theorem C07_config (s : State) (mech : Nat) (hno : (supportedMechs s.mechCfg).contains mech = false) :
    (∀ kind h p keyH oRv, (stepOpInit s kind h mech p keyH oRv).2.rv ≠ CKR.OK) ∧
    (∀ h oRv, (stepDigestInit s h mech oRv).2.rv ≠ CKR.OK) ∧
    (∀ h tpl oRv, (stepGenKey s h mech tpl oRv).2.rv ≠ CKR.OK) ∧
    (∀ h pt vt oRv, (stepGenPair s h mech pt vt oRv).2.rv ≠ CKR.OK) := by
  have hno' : mech ∉ supportedMechs s.mechCfg := by simpa using hno
  refine ⟨?_, ?_, ?_, ?_⟩
  · intro kind h p keyH oRv hok
    obtain ⟨_, key, _, _, _, _, _, hperm, _⟩ := C07_main s kind h mech p keyH oRv hok
    unfold mechPermitted at hperm
    simp [hno'] at hperm
  · intro h oRv
    unfold stepDigestInit
    cases s.handles.getSess h with
    | none => simp [rOnly]
    | some ss => simp only []; split <;> simp [rOnly, hno']
  · intro h tpl oRv
    unfold stepGenKey
    cases s.handles.getSess h with
    | none => simp [rOnly]
    | some ss => simp [rOnly, hno']
  · intro h pt vt oRv
    unfold stepGenPair
    cases s.handles.getSess h with
    | none => simp [rOnly]
    | some ss => simp [rOnly, hno']

/-- CKA_ALWAYS_AUTHENTICATE: while re-authentication is pending, C_Sign / C_SignUpdate / C_SignFinal / C_Decrypt end the operation
    with CKR_USER_NOT_LOGGED_IN and return neither a length nor a byte — for every buffer, the size query included -/
theorem C07_reauth (s : State) (h : Nat) (ss : Sess) (hs : s.handles.getSess h = some ss) (hre : ss.opd.reauth = true)
    (n : Nat) (cap : Option Nat) (oRv : RV) (ol : Nat) (od : Option Bytes) :
    (ss.op = .sign → ss.opd.single = true → stepSignLike s .sign h (some n) cap oRv od = (resetOp s h ss, { rv := CKR.USER_NOT_LOGGED_IN })) ∧
    (ss.op = .sign → ss.opd.multi = true → stepUpdateLike s .sign h (some n) oRv = (resetOp s h ss, { rv := CKR.USER_NOT_LOGGED_IN })) ∧
    (ss.op = .sign → ss.opd.multi = true → stepFinalLike s .sign h cap oRv od = (resetOp s h ss, { rv := CKR.USER_NOT_LOGGED_IN })) ∧
    (ss.op = .decrypt → ss.opd.sym = none → ss.opd.single = true →
      stepCrypt s false h (some n) cap oRv ol od = (resetOp s h ss, { rv := CKR.USER_NOT_LOGGED_IN })) := by
  refine ⟨?_, ?_, ?_, ?_⟩
  · intro hop hsg; simp [stepSignLike, hs, hop, hsg, hre]
  · intro hop hm; simp [stepUpdateLike, hs, hop, hm, hre]
  · intro hop hm; simp [stepFinalLike, hs, hop, hm, hre]
  · intro hop hsym hsg; simp [stepCrypt, hs, hop, hsym, hsg, hre]

/-! ### wrap / unwrap / derive: ONLY-IF — a call that succeeds had the flag, the mechanism was allowed for the key and configured -/

/-- **C_WrapKey succeeds only if** the wrapping key has CKA_WRAP, the mechanism is permitted for it (CKA_ALLOWED_MECHANISMS and slots.mechanisms), the key to be wrapped
    is CKA_EXTRACTABLE, and a CKA_WRAP_WITH_TRUSTED key is wrapped under a CKA_TRUSTED key only -/
theorem C07_wrap_only_if (s : State) (h mech : Nat) (p : MParam) (wkH keyH : Nat) (cap : Option Nat) (oRv : RV) (oLen : Nat) (oData : Option Bytes)
    (hok : (stepWrap s h mech p wkH keyH cap oRv oLen oData).2.rv = CKR.OK) :
    ∃ e1 wk e2 key, resolveObj s wkH = some (e1, wk) ∧ resolveObj s keyH = some (e2, key) ∧
      getBoolD wk.attrs CKA.WRAP false = true ∧ mechPermitted s.mechCfg wk.attrs mech = true ∧
      getBoolD key.attrs CKA.EXTRACTABLE false = true ∧
      (getBoolD key.attrs 0x210 false = true → getBoolD wk.attrs CKA.TRUSTED false = true) := by
  unfold stepWrap at hok
  split at hok
  · simp only [rOnly] at hok; exact absurd hok (by decide)
  split at hok
  · rename_i e he; exact absurd hok ((wrapParamErr_codes _ _ _).ne_ok he)
  split at hok
  · simp only [rOnly] at hok; exact absurd hok (by decide)
  split at hok
  · simp only [rOnly] at hok; exact absurd hok (by decide)
  rename_i e1 wk hwk
  extract_lets st acc wcls rsaMech at hok
  obtain ⟨_, hok⟩ := ite_refuse_acc _ _ _ hok
  -- the four tests of the wrapping key's class and key type against the mechanism
  obtain ⟨_, hok⟩ := ite_refuse _ _ _ (by decide) hok
  obtain ⟨_, hok⟩ := ite_refuse _ _ _ (by decide) hok
  obtain ⟨_, hok⟩ := ite_refuse _ _ _ (by decide) hok
  obtain ⟨_, hok⟩ := ite_refuse _ _ _ (by decide) hok
  obtain ⟨hwrap, hok⟩ := ite_refuse _ _ _ (by decide) hok
  obtain ⟨hperm, hok⟩ := ite_refuse _ _ _ (by decide) hok
  split at hok
  · simp only [rOnly] at hok; exact absurd hok (by decide)
  rename_i e2 key hkey
  extract_lets acc2 at hok
  obtain ⟨_, hok⟩ := ite_refuse_acc _ _ _ hok
  obtain ⟨hextr, hok⟩ := ite_refuse _ _ _ (by decide) hok
  obtain ⟨htrust, hok⟩ := ite_refuse _ _ _ (by decide) hok
  refine ⟨e1, wk, e2, key, hwk, hkey, ?_, ?_, ?_, ?_⟩
  · simpa using hwrap
  · simpa using hperm
  · simpa using hextr
  · intro hw; simpa [hw] using htrust

/-- **C_UnwrapKey succeeds only if** the unwrapping key has CKA_UNWRAP and the mechanism is permitted for it -/
theorem C07_unwrap_only_if (s : State) (h mech : Nat) (p : MParam) (ukH : Nat) (blob : Option Bytes) (tpl : Template) (oRv : RV)
    (hok : (stepUnwrap s h mech p ukH blob tpl oRv).2.rv = CKR.OK) :
    ∃ e1 uk, resolveObj s ukH = some (e1, uk) ∧ getBoolD uk.attrs CKA.UNWRAP false = true ∧ mechPermitted s.mechCfg uk.attrs mech = true := by
  unfold stepUnwrap at hok
  split at hok
  · simp only [rOnly] at hok; exact absurd hok (by decide)
  split at hok
  · simp only [rOnly] at hok; exact absurd hok (by decide)
  split at hok
  · rename_i e he; exact absurd hok ((unwrapParamErr_codes _ _ _ _).ne_ok he)
  split at hok
  · simp only [rOnly] at hok; exact absurd hok (by decide)
  split at hok
  · simp only [rOnly] at hok; exact absurd hok (by decide)
  rename_i e1 uk huk
  extract_lets st acc ucls ukt rsaMech at hok
  obtain ⟨_, hok⟩ := ite_refuse_acc _ _ _ hok
  -- the three tests of the unwrapping key's class and key type against the mechanism
  obtain ⟨_, hok⟩ := ite_refuse _ _ _ (by decide) hok
  obtain ⟨_, hok⟩ := ite_refuse _ _ _ (by decide) hok
  obtain ⟨_, hok⟩ := ite_refuse _ _ _ (by decide) hok
  obtain ⟨hunwrap, hok⟩ := ite_refuse _ _ _ (by decide) hok
  obtain ⟨hperm, hok⟩ := ite_refuse _ _ _ (by decide) hok
  exact ⟨e1, uk, huk, by simpa using hunwrap, by simpa using hperm⟩

/-- **C_DeriveKey succeeds only if** the base key has CKA_DERIVE, the mechanism is a derivation mechanism and is permitted for the key -/
theorem C07_derive_only_if (s : State) (h mech : Nat) (p : MParam) (bkH : Nat) (tpl : Template) (oRv : RV)
    (hok : (stepDerive s h mech p bkH tpl oRv).2.rv = CKR.OK) :
    ∃ e1 bk, resolveObj s bkH = some (e1, bk) ∧ getBoolD bk.attrs CKA.DERIVE false = true ∧ mechPermitted s.mechCfg bk.attrs mech = true ∧
      deriveMechs.contains mech = true := by
  unfold stepDerive at hok
  split at hok
  · simp only [rOnly] at hok; exact absurd hok (by decide)
  obtain ⟨hmech, hok⟩ := ite_refuse _ _ _ (by decide) hok
  split at hok
  · simp only [rOnly] at hok; exact absurd hok (by decide)
  split at hok
  · simp only [rOnly] at hok; exact absurd hok (by decide)
  rename_i e1 bk hbk
  extract_lets st acc at hok
  obtain ⟨_, hok⟩ := ite_refuse_acc _ _ _ hok
  obtain ⟨hder, hok⟩ := ite_refuse _ _ _ (by decide) hok
  obtain ⟨hperm, hok⟩ := ite_refuse _ _ _ (by decide) hok
  exact ⟨e1, bk, hbk, by simpa using hder, by simpa using hperm, by simpa using hmech⟩

end Shm.C07

/-! ### from the configuration file to the mechanism filter -/
namespace Shm.Pure.Config

/-- **`slots.mechanisms = <list>` reaches the mechanism filter verbatim**: a configuration file consisting of that one line yields exactly the string setting `slots.mechanisms`
    with exactly the list as written (which `parseMechCfg` / `supportedMechs` of the state model then interpret, and the K07 matrices exercise) -/
theorem C07_conf_mechanisms_line (v : Bytes) (hv : PlainTok v) (hlen : v.length < 990) :
    (load (keyBytes "slots.mechanisms" ++ [0x20, 0x3d, 0x20] ++ v ++ [0x0a])).get "slots.mechanisms" = some (.str v) := by
  have hk : typeOf (keyBytes "slots.mechanisms") = some ("slots.mechanisms", .str) := by decide +kernel
  have hkp : PlainTok (keyBytes "slots.mechanisms") := by
    constructor
    · decide +kernel
    · decide +kernel
  have hl : (keyBytes "slots.mechanisms").length = 16 := by decide +kernel
  exact load_single_string "slots.mechanisms" v hk hkp hv (by rw [hl]; omega)

example : PlainTok ("-CKM_SHA256,CKM_AES_KEY_GEN".toUTF8.toList) := by constructor <;> decide +kernel

end Shm.Pure.Config
