/-
  C13 — wrap, unwrap and derive produce exactly the specified keys.

  Value level: the wrapping formats (RFC 3394 with SoftHSM's zero padding, PKCS#7-padded CBC) are round trips for EVERY block
  function with a left inverse; the shaping of derived secrets (cut to length from the specified end, DES parity).
  State level (model of C_UnwrapKey): an unwrapped key is never local, never "never extractable", never "always sensitive";
  a refused C_UnwrapKey / C_DeriveKey creates nothing.
  Tie: K13 computes every AES-wrapped blob, every unwrapped value, every derived value (AES-ECB/CBC data encryption,
  concatenations, Diffie-Hellman, ECDH on P-256) and every check value with the Lean reference implementations of
  Shm/Crypto and compares them with what the library returns.
-/
import Shm.Lemmas.KeyWrapLemmas
import Shm.Lemmas.Creates
import Shm.Lemmas.Guards
import Shm.Lemmas.PureLemmas
namespace Shm.C13
open Shm.Crypto

/-! ### the wrapping formats -/

/-- SoftHSM's `RFC3394Pad`: the key bytes, then zero bytes up to a multiple of 8 -/
theorem C13_zeroPad8 (p : Bytes) : (zeroPad8 p).length % 8 = 0 ∧ (zeroPad8 p).take p.length = p ∧ ∀ b ∈ (zeroPad8 p).drop p.length, b = 0 := by
  refine ⟨(zeroPad8_length p).1, by rw [zeroPad8, List.take_left], ?_⟩
  rw [zeroPad8, List.drop_left]; intro b hb; exact (List.mem_replicate.mp hb).2

/-- **CKM_AES_KEY_WRAP**: unwrapping what wrapping produced yields the key bytes zero-padded to a multiple of eight — for every key of
    at least 9 bytes (shorter ones are refused with CKR_KEY_SIZE_RANGE), every block function with a left inverse -/
theorem C13_aes_key_wrap_roundtrip {E D : Bytes → Bytes} (h : BlockInv E D) (kd : Bytes) (hlen : 16 ≤ (zeroPad8 kd).length) :
    rfc3394Unwrap D (rfc3394Wrap E (zeroPad8 kd)) = some (zeroPad8 kd) :=
  rfc3394_roundtrip h _ (C13_zeroPad8 kd).1 hlen

/-- **CKM_AES_CBC_PAD**: PKCS#7-padded CBC under the caller's IV is a round trip for every key length, block multiples or not -/
theorem C13_cbc_pad_roundtrip {E D : Bytes → Bytes} (h : BlockInv E D) (iv kd : Bytes) (hiv : iv.length = 16) :
    pkcs7Unpad 16 (cbcDecrypt D iv (cbcEncrypt E iv (pkcs7Pad 16 kd))) = some kd := cbc_pad_roundtrip h iv kd hiv

/-- the model's wrap / unwrap functions compose to the identity (modulo the zero padding of CKM_AES_KEY_WRAP), whenever the AES instance
    of the wrapping key is a block function with a left inverse — validated for AES by execution (FIPS-197 vectors, every unwrap of K13),
    not proved -/
theorem C13_model_key_wrap (kek kd : Bytes) (p : MParam) (hAES : BlockInv (aesEncBlock (aesKey kek)) (aesDecBlock (aesKey kek)))
    (hl : 16 ≤ (zeroPad8 kd).length) :
    ∃ w, wrapSym CKM.AES_KEY_WRAP p kek kd = .ok w ∧ unwrapSym CKM.AES_KEY_WRAP p kek w = .ok (zeroPad8 kd) := by
  refine ⟨rfc3394Wrap (aesEncBlock (aesKey kek)) (zeroPad8 kd), ?_, ?_⟩
  · have hnot : ¬ (zeroPad8 kd).length < 16 := by omega
    simp only [wrapSym, CKM.AES_KEY_WRAP, beq_self_eq_true, if_true, hnot, if_false]
  · simp only [unwrapSym, CKM.AES_KEY_WRAP, beq_self_eq_true, if_true]
    rw [rfc3394_roundtrip hAES _ (C13_zeroPad8 kd).1 hl]

/-- **CKM_AES_KEY_WRAP_PAD** (RFC 5649): unwrapping what wrapping produced yields exactly the key bytes — every non-empty key shorter than 2^32 bytes, whatever its
    length modulo eight (the alternative initial value with the length field, the one-block special case and the zero-padding check included) -/
theorem C13_aes_key_wrap_pad_roundtrip {E D : Bytes → Bytes} (h : BlockInv E D) (kd : Bytes) (h0 : 0 < kd.length) (h32 : kd.length < 2 ^ 32) :
    rfc5649Unwrap D (rfc5649Wrap E kd) = some kd := rfc5649_roundtrip h kd h0 h32

theorem C13_model_key_wrap_pad (kek kd : Bytes) (p : MParam) (hAES : BlockInv (aesEncBlock (aesKey kek)) (aesDecBlock (aesKey kek)))
    (h0 : 0 < kd.length) (h32 : kd.length < 2 ^ 32) :
    ∃ w, wrapSym CKM.AES_KEY_WRAP_PAD p kek kd = .ok w ∧ unwrapSym CKM.AES_KEY_WRAP_PAD p kek w = .ok kd := by
  -- the mechanism is a literal: both switches are decided by evaluation
  refine ⟨_, rfl, ?_⟩
  show (match rfc5649Unwrap _ (rfc5649Wrap _ kd) with | some k => Except.ok k | none => _) = _
  rw [rfc5649_roundtrip hAES kd h0 h32]

theorem C13_model_cbc_pad (kek kd iv : Bytes) (p : MParam) (hAES : BlockInv (aesEncBlock (aesKey kek)) (aesDecBlock (aesKey kek)))
    (hp : (p.raw.headD []).take 16 = iv) (hiv : iv.length = 16) :
    ∃ w, wrapSym CKM.AES_CBC_PAD p kek kd = .ok w ∧ unwrapSym CKM.AES_CBC_PAD p kek w = .ok kd := by
  subst hp
  have hpl := pkcs7Pad_length 16 kd (by decide)
  have hlen := cbcEncrypt_length hAES _ (pkcs7Pad 16 kd) hiv hpl
  have hpos : (pkcs7Pad 16 kd).length ≠ 0 := by simp [pkcs7Pad]; omega
  refine ⟨_, rfl, ?_⟩
  show (if _ then _ else match pkcs7Unpad 16 (cbcDecrypt _ _ (cbcEncrypt _ _ (pkcs7Pad 16 kd))) with | some k => Except.ok k | none => _) = _
  rw [if_neg (by simp only [Bool.or_eq_true, List.isEmpty_iff_length_eq_zero, bne_iff_ne, hlen, hpl]; simp [hpos]), cbc_pad_roundtrip hAES _ kd hiv]

/-! ### the unwrapped key -/

/-- **an unwrapped key is marked not local, not always-sensitive, not never-extractable** — whatever the template, the mechanism, the key class -/
theorem C13_unwrapped_key_flags (s : State) (slot h cls kt : Nat) (onToken isPriv soIn : Bool) (tpl : Template) (kd : Option (Except RV Bytes)) (oRv : RV)
    (hok : (unwrapFinish s slot h cls kt onToken isPriv soIn tpl kd oRv).2.rv = CKR.OK) :
    ∃ o, (unwrapFinish s slot h cls kt onToken isPriv soIn tpl kd oRv).1.objs = s.objs ++ [o] ∧ o.oid = s.nextOid ∧ o.isPriv = isPriv ∧ o.onToken = onToken ∧
      getA o.attrs CKA.LOCAL = some (.bool false) ∧ getA o.attrs CKA.ALWAYS_SENSITIVE = some (.bool false) ∧ getA o.attrs CKA.NEVER_EXTRACTABLE = some (.bool false) := by
  revert hok
  unfold unwrapFinish
  cases findClass cls kt 0 with
  | none => intro hok; exact absurd hok (by decide : CKR.ATTRIBUTE_VALUE_INVALID ≠ CKR.OK)
  | some cd =>
    dsimp only
    cases hst : saveTemplate cd (initAttrs cd) (reorderTpl (keyTemplate cls kt onToken isPriv tpl [])) OP.UNWRAP isPriv soIn oRv with
    | error e => intro hok; exact absurd hok (saveTemplate_error_ne_ok hst)
    | ok attrs =>
      dsimp only
      -- the three flags are written last but for CKA_VALUE (secret key) or the key material marked unknown (private key)
      by_cases hc : (cls == CKO.SECRET_KEY) = true
      · rw [if_pos hc]; intro _
        refine ⟨_, rfl, rfl, rfl, rfl, ?_, ?_, ?_⟩ <;> (simp only [getA_setA]; rfl)
      rw [if_neg hc]
      by_cases hff : (oRv == CKR.FUNCTION_FAILED) = true
      · rw [if_pos hff]; intro (hok : oRv = CKR.OK); exact absurd (hok ▸ hff) (by decide)
      rw [if_neg hff]; intro _
      refine ⟨_, rfl, rfl, rfl, rfl, ?_, ?_, ?_⟩ <;> (rw [getA_markUnk_other _ _ (by decide)]; simp only [getA_setA]; rfl)

/-! ### a refused call creates nothing -/

/-- **malformed, truncated or otherwise refused input creates no object**: whenever C_UnwrapKey or C_DeriveKey answers anything but CKR_OK, the
    object population is exactly what it was -/
theorem C13_refused_creates_nothing (s : State) (h m : Nat) (p : MParam) (k : Nat) (b : Option Bytes) (t : Template) (rv : RV) :
    ((stepUnwrap s h m p k b t rv).2.rv ≠ CKR.OK → (stepUnwrap s h m p k b t rv).1.objs = s.objs) ∧
    ((stepDerive s h m p k t rv).2.rv ≠ CKR.OK → (stepDerive s h m p k t rv).1.objs = s.objs) :=
  ⟨(creates_unwrap ..).refused.resolve_left, (creates_derive ..).refused.resolve_left⟩

/-! ### derived secrets -/

/-- DES parity (`odd_parity[]` of odd.h): every byte gets odd parity, only its lowest bit may change, applying it twice changes nothing -/
theorem C13_odd_parity : ∀ n, n < 256 →
    let b := UInt8.ofNat n
    ((List.range 8).foldl (fun k i => k + ((oddParity b >>> UInt8.ofNat i) &&& 1).toNat) 0) % 2 = 1 ∧
    (oddParity b &&& 0xFE) = (b &&& 0xFE) ∧ oddParity (oddParity b) = oddParity b := by
  decide +kernel

/-- the derived value has exactly the requested length and is the specified end of the secret: the trailing bytes for the Diffie-Hellman
    family, the leading bytes for the symmetric derivations (non-DES key types; DES types are additionally parity-adjusted byte by byte) -/
theorem C13_shape (kt len : Nat) (fromEnd : Bool) (secret v : Bytes) (hk : isDesType kt = false) (h : shapeSecret kt len fromEnd secret = some v) :
    v.length = len ∧ v = (if fromEnd then secret.drop (secret.length - len) else secret.take len) := by
  unfold shapeSecret at h
  split at h
  · simp at h
  · next hle =>
    simp only [hk, Bool.false_eq_true, if_false, Option.some.injEq] at h
    subst h
    constructor
    · cases fromEnd
      · simp only [Bool.false_eq_true, if_false, List.length_take]; omega
      · simp only [if_true, List.length_drop]; omega
    · rfl

/-- non-vacuity: the parity table on two bytes, a cut from the trailing end -/
example : oddParity 0x00 = 0x01 ∧ oddParity 0x03 = 0x02 ∧ shapeSecret CKK.GENERIC 2 true [1, 2, 3] = some [2, 3] ∧ shapeSecret CKK.AES 2 false [1, 2, 3] = some [1, 2] := by decide

end Shm.C13

/-! ### the byte-level helpers of wrap / unwrap / derive, as the C++ has them (unit-tied definitions of Shm/Pure) -/
namespace Shm.Pure
open Shm.Crypto

/-- **DER octet strings** (`DERUTIL::raw2Octet` / `octet2Raw`, used for CKA_EC_POINT and for the ECDH public data): decoding what was encoded
    gives the bytes back, for every byte string the address space can hold (short and long length forms) -/
theorem C13_der_roundtrip (b : Bytes) (h : b.length < 2 ^ 64) : octet2Raw (raw2Octet b) = b := by
  simp only [raw2Octet]
  split
  next hs =>
    have hn : (UInt8.ofNat b.length).toNat = b.length := by simp [UInt8.toNat_ofNat']; omega
    have hl : (UInt8.ofNat b.length) < 0x80 := by rw [UInt8.lt_iff_toNat_lt, hn]; exact hs
    simp [octet2Raw, hl, hn]
  next hs =>
    obtain ⟨_, h8, hlt⟩ := sigBytes_spec b.length (by omega) h
    exact octet2Raw_long (sigBytes b.length) (beBytes _ b.length) b (by omega) (beBytes_length _ _) (by omega)
      (by rw [longVal_beBytes _ _ h8, Nat.mod_eq_of_lt hlt])

/-- **ECDH public data** (`SoftHSM::getECDHPubData`): whatever the caller passes, the derivation receives an octet string that decodes to the
    caller's own bytes (raw input) or to the content of the caller's octet string; a raw point of a supported curve is never taken for DER -/
theorem C13_ecdh_pubdata (d : Bytes) (h : d.length < 2 ^ 64) :
    octet2Raw (ecdhPubData d) = (if isDerOctet d then octet2Raw d else d) ∧
    ((d.length = 32 ∨ d.length = 56 ∨ d.length = 65 ∨ d.length = 97 ∨ d.length = 133) → octet2Raw (ecdhPubData d) = d) := by
  have hdec : octet2Raw (ecdhPubData d) = if isDerOctet d then octet2Raw d else d := by
    unfold ecdhPubData
    split
    · rfl
    · exact C13_der_roundtrip d h
  refine ⟨hdec, fun hl => ?_⟩
  -- the length test comes first in `getECDHPubData`: such a string is never looked at as DER
  have hd : isDerOctet d = false := by
    unfold isDerOctet
    rcases hl with h | h | h | h | h <;> simp [h]
  rw [hdec]; simp [hd]

/-- **the padding helpers of C_WrapKey / C_UnwrapKey are the standard ones**: `RFC5652Pad` is PKCS#7 padding, `RFC5652Unpad` inverts it (and agrees with the
    model's unpadding on every block-aligned input), `RFC3394Pad` is the zero padding to a multiple of eight of CKM_AES_KEY_WRAP -/
theorem C13_padding_helpers (b : Bytes) (bs : Nat) (h0 : 0 < bs) (h1 : bs < 256) :
    rfc5652Pad b bs = pkcs7Pad bs b ∧ rfc5652Unpad (rfc5652Pad b bs) bs = some b ∧ rfc3394Pad b = zeroPad8 b ∧
    (∀ p, p ≠ [] → p.length % bs = 0 → rfc5652Unpad p bs = pkcs7Unpad bs p) := by
  refine ⟨rfl, ?_, ?_, fun p hne hm => unpad5652_eq_model p bs hm hne⟩
  · -- the padded string is block-aligned and not empty: there `RFC5652Unpad` is the model's unpadding, which undoes PKCS#7 padding
    show rfc5652Unpad (pkcs7Pad bs b) bs = some b
    rw [unpad5652_eq_model _ _ (pkcs7Pad_length bs b h0), pkcs7_roundtrip bs b h0 h1]
    intro h
    have := congrArg List.length h
    simp [pkcs7Pad] at this
    have := Nat.mod_lt b.length h0
    omega
  · unfold rfc3394Pad zeroPad8
    by_cases h : b.length % 8 = 0
    · simp [h]
    · have : (8 - b.length % 8) % 8 = 8 - b.length % 8 := by omega
      simp [h, this]

/-- **unpadding is exact**: what `RFC5652Unpad` accepts is its result followed by `k` bytes of value `k`, `1 ≤ k ≤ blocksize` — nothing else is accepted -/
theorem C13_unpad_sound (p v : Bytes) (bs : Nat) (h : rfc5652Unpad p bs = some v) :
    ∃ k : UInt8, 1 ≤ k.toNat ∧ k.toNat ≤ bs ∧ k.toNat ≤ p.length ∧ p = v ++ List.replicate k.toNat k := by
  -- an accepted input is non-empty and block-aligned: there `RFC5652Unpad` is the model's unpadding
  have hc : ¬ (p.length == 0 || p.length % bs != 0) = true := fun hc => by simp [rfc5652Unpad, hc] at h
  simp only [Bool.or_eq_true, beq_iff_eq, bne_iff_ne, ne_eq, not_or, Decidable.not_not, List.length_eq_zero_iff] at hc
  exact pkcs7Unpad_sound bs p v (unpad5652_eq_model p bs hc.2 hc.1 ▸ h)

/-- non-vacuity: a 200-byte string takes the long form `04 81 C8`, an uncompressed P-256 point (65 bytes, first byte 04) is wrapped, not "recognised" -/
example : (raw2Octet (List.replicate 200 7)).take 3 = [0x04, 0x81, 0xC8] ∧ octet2Raw (raw2Octet (List.replicate 200 7)) = List.replicate 200 7 ∧
    ecdhPubData (0x04 :: List.replicate 64 1) = 0x04 :: 0x41 :: 0x04 :: List.replicate 64 1 ∧ rfc5652Unpad [1, 2, 2, 2] 4 = some [1, 2] ∧ rfc5652Unpad [1, 2, 3, 2] 4 = none := by decide +kernel

/-- **`ByteString::bits`** (what CKA_VALUE_BITS of a derived DH key and the key-size checks are computed with) is the bit length of the big-endian number the bytes spell:
    the value is below 2^bits, and at least 2^(bits-1) unless it is zero - for every byte string, leading zero bytes included -/
theorem C13_bits_is_bit_length (b : Bytes) : Shm.Store.beVal b < 2 ^ bits b ∧ (bits b ≠ 0 → 2 ^ (bits b - 1) ≤ Shm.Store.beVal b) := by
  open Shm.Store in
  unfold bits
  rw [← beVal_dropZeros b]
  cases h : b.dropWhile (· == 0) with
  | nil => simp [beVal]
  | cons x r =>
    have hx : x ≠ 0 := by
      have hne : b.dropWhile (· == 0) ≠ [] := by rw [h]; simp
      have := List.head_dropWhile_not (· == 0) hne
      simp only [h, List.head_cons] at this
      simpa using this
    obtain ⟨hlo, hhi⟩ := byteBits_spec x hx
    have h256 : (256 : Nat) ^ r.length = 2 ^ (r.length * 8) := by
      rw [show (256 : Nat) = 2 ^ 8 by rfl, ← Nat.pow_mul, Nat.mul_comm]
    have hr : beVal r < 2 ^ (r.length * 8) := by rw [← h256]; exact beVal_lt r
    rw [beVal_cons, h256]
    have hbb : 1 ≤ byteBits x := by
      have hb : (x == 0) = false := by simpa using hx
      simp [byteBits, hb]
    constructor
    · calc x.toNat * 2 ^ (r.length * 8) + beVal r < (x.toNat + 1) * 2 ^ (r.length * 8) := by rw [Nat.add_mul]; omega
        _ ≤ 2 ^ byteBits x * 2 ^ (r.length * 8) := Nat.mul_le_mul_right _ hhi
        _ = 2 ^ (r.length * 8 + byteBits x) := by rw [← Nat.pow_add, Nat.add_comm]
    · intro _
      have he : r.length * 8 + byteBits x - 1 = (byteBits x - 1) + r.length * 8 := by omega
      calc 2 ^ (r.length * 8 + byteBits x - 1) = 2 ^ (byteBits x - 1) * 2 ^ (r.length * 8) := by rw [he, Nat.pow_add]
        _ ≤ x.toNat * 2 ^ (r.length * 8) := Nat.mul_le_mul_right _ hlo
        _ ≤ x.toNat * 2 ^ (r.length * 8) + beVal r := Nat.le_add_right _ _

example : bits [0x00, 0x01, 0xff] = 9 ∧ bits [0x00, 0x00] = 0 ∧ bits [0x80] = 8 := by decide

end Shm.Pure
