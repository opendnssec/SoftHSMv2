/-
  C02 — Sensitive or unextractable key material never leaves the token in the clear.
  All statements are about the GENERATED class table and update programs (Shm/Gen), i.e. about what
  P11Objects.cpp / P11Attributes.cpp say now.
-/
import Shm.Lemmas.AttrPreserve
import Shm.Lemmas.Enc
import Shm.Lemmas.HTable
import Shm.Model.Step
import Shm.Lemmas.Lists
import Shm.Model.Wrap
import Shm.Props.C07
namespace Shm.C02

/-- the secret value attributes named by the property -/
def secretAttrs : List Nat := [0x11, 0x123, 0x124, 0x125, 0x126, 0x127, 0x128]

def isKeyClass (cd : ClassDesc) : Bool := cd.cls == CKO.SECRET_KEY || cd.cls == CKO.PRIVATE_KEY

/-- every secret value attribute of every secret-key / private-key class carries footnote 7 -/
theorem C02_ck7_table :
    (Gen.classTable.all fun cd => !isKeyClass cd || cd.attrs.all fun d => !secretAttrs.contains d.ty || hasCheckN d.checks 7) = true := by
  decide +kernel

/-- … and every such class has at least one of them (the table statement is not vacuous) -/
theorem C02_ck7_table_nonvacuous :
    (Gen.classTable.all fun cd => !isKeyClass cd || cd.attrs.any fun d => secretAttrs.contains d.ty && hasCheckN d.checks 7) = true := by
  decide +kernel

/-- `P11Attribute::retrieve`: a footnote-7 attribute of a sensitive or unextractable object is never revealed:
    CKR_ATTRIBUTE_SENSITIVE, length CK_UNAVAILABLE_INFORMATION, no byte written — for every buffer -/
theorem C02_retrieve_sensitive (d : AttrDesc) (o : Attrs) (isPriv keyOk : Bool) (cap : Option Nat)
    (h7 : hasCheckN d.checks 7 = true)
    (hs : getBoolD o CKA.SENSITIVE false = true ∨ getBoolD o CKA.EXTRACTABLE true = false) :
    retrieve d o isPriv cap keyOk = (.sensitive, { len := UNAVAILABLE, data := none }) := by
  unfold retrieve
  rcases hs with hs | hs <;> simp [h7, hs]

/-- `loadTemplate`: the entry of a protected attribute reports UNAVAILABLE and carries no data, wherever it
    stands in the request and whatever else is requested -/
theorem C02_loadEntries_protected (cd : ClassDesc) (o : Attrs) (isPriv keyOk : Bool)
    (hs : getBoolD o CKA.SENSITIVE false = true ∨ getBoolD o CKA.EXTRACTABLE true = false) :
    ∀ (req : List (Nat × Option Nat)) (ov : List (Nat × Option Bytes)) (i : Nat) (ty : Nat) (cap : Option Nat) (d : AttrDesc),
      req[i]? = some (ty, cap) → descOf cd ty = some d → hasCheckN d.checks 7 = true →
      (loadEntries cd o isPriv keyOk req ov).1[i]? = some { len := UNAVAILABLE, data := none } ∧
      (loadEntries cd o isPriv keyOk req ov).2.1 = true := by
  intro req
  induction req with
  | nil => intro ov i ty cap d h; simp at h
  | cons r rest ih =>
    intro ov i ty cap d hi hd h7
    obtain ⟨rty, rcap⟩ := r
    cases i with
    | zero =>
      simp at hi
      obtain ⟨h1, h2⟩ := hi
      subst h1; subst h2
      simp only [loadEntries, hd, C02_retrieve_sensitive d o isPriv keyOk rcap h7 hs]
      simp
    | succ j =>
      have := ih ov.tail j ty cap d hi hd h7
      simp only [loadEntries]
      cases hdr : descOf cd rty with
      | none => simp [this.1, this.2]
      | some d' =>
        simp only []
        rcases hret : retrieve d' o isPriv rcap keyOk with ⟨k, r⟩
        cases k <;> simp [this.1, this.2]

/-! ### the protections cannot be removed by C_SetAttributeValue or C_CopyObject -/

/-- table facts: the check `attrKeeps` of every attribute of every class (footprint, and abstract interpretation of the
    generated update programs that can write the flag) -/
theorem sensitive_set : tableKeeps (some OP.SET) none CKA.SENSITIVE true = true := by decide +kernel
theorem sensitive_copy : tableKeeps (some OP.COPY) none CKA.SENSITIVE true = true := by decide +kernel
theorem extractable_set : tableKeeps (some OP.SET) none CKA.EXTRACTABLE false = true := by decide +kernel
theorem extractable_copy : tableKeeps (some OP.COPY) none CKA.EXTRACTABLE false = true := by decide +kernel
theorem wrapWithTrusted_set : tableKeeps (some OP.SET) none CKA.WRAP_WITH_TRUSTED true = true := by decide +kernel
theorem wrapWithTrusted_copy : tableKeeps (some OP.COPY) none CKA.WRAP_WITH_TRUSTED true = true := by decide +kernel

/-- One-way flags, at the level of `saveTemplate` (which both C_SetAttributeValue and C_CopyObject run): for
    EVERY class of the table, EVERY template (any length, any order, any values, valid or not) and every
    session/login state, an accepted template leaves CKA_SENSITIVE = true / CKA_EXTRACTABLE = false /
    CKA_WRAP_WITH_TRUSTED = true as they were. -/
theorem C02_oneway (cd : ClassDesc) (hcd : cd ∈ Gen.classTable) (op : Nat) (hop : op = OP.SET ∨ op = OP.COPY)
    (o o' : Attrs) (tpl : Template) (isPriv soIn : Bool) (oRv : RV)
    (h : saveTemplate cd o tpl op isPriv soIn oRv = .ok o') :
    (Knows o CKA.SENSITIVE true → Knows o' CKA.SENSITIVE true) ∧
    (Knows o CKA.EXTRACTABLE false → Knows o' CKA.EXTRACTABLE false) ∧
    (Knows o CKA.WRAP_WITH_TRUSTED true → Knows o' CKA.WRAP_WITH_TRUSTED true) := by
  have pick {T goal} (ht : tableKeeps (some op) none T goal = true) (hk : Knows o T goal) : Knows o' T goal :=
    saveTemplate_keeps ht hcd (fun _ hb => Option.some.inj hb) (fun _ hb => nomatch hb) hk h
  rcases hop with rfl | rfl
  · exact ⟨pick sensitive_set, pick extractable_set, pick wrapWithTrusted_set⟩
  · exact ⟨pick sensitive_copy, pick extractable_copy, pick wrapWithTrusted_copy⟩

/-- the attributes a copy starts from keep every boolean of the source -/
theorem copyAttrs_knows (o : Attrs) (wp ip : Bool) (T : Nat) (tv : Bool) (h : Knows o T tv) : Knows (copyAttrs o wp ip) T tv := by
  unfold Knows getA at *
  unfold copyAttrs
  rw [lookup_map_keep (fun e : Nat × AVal => reEnc wp ip e.2) o T, h]
  rfl

/-- C_SetAttributeValue, end to end: when the call succeeds on a key that is sensitive / unextractable /
    wrap-with-trusted, the object still is afterwards -/
theorem C02_setAttr_oneway (s : State) (h o : Nat) (tpl : Template) (oe : RV) (e : ObjH) (ob : Obj)
    (hres : resolveObj s o = some (e, ob)) (hok : (step s (.setAttr h o tpl oe)).2.rv = CKR.OK) :
    (step s (.setAttr h o tpl oe)).1 = s ∨
    ∃ attrs', (step s (.setAttr h o tpl oe)).1.objs = updObj s.objs ob.oid attrs' ∧
      (Knows ob.attrs CKA.SENSITIVE true → Knows attrs' CKA.SENSITIVE true) ∧
      (Knows ob.attrs CKA.EXTRACTABLE false → Knows attrs' CKA.EXTRACTABLE false) ∧
      (Knows ob.attrs CKA.WRAP_WITH_TRUSTED true → Knows attrs' CKA.WRAP_WITH_TRUSTED true) := by
  revert hok
  simp only [step, guardInit]
  split
  · intro _; left; rfl
  · unfold stepSetAttr
    split
    · split <;> (intro _; left; rfl)
    next ss t hst =>
      simp only [hres]
      step_cases
      all_goals (first | (intro _; left; rfl) | skip)
      intro _
      right
      exact ⟨_, rfl, C02_oneway _ (findClass_mem (by assumption : classOfAttrs _ = some _)) OP.SET (Or.inl rfl) _ _ tpl _ _ oe (by assumption)⟩

/-- non-vacuity: an AES key object as `P11AESSecretKeyObj::init` leaves it knows its flags, and a concrete
    C_SetAttributeValue(CKA_SENSITIVE = false) on a sensitive key is refused with CKR_ATTRIBUTE_READ_ONLY -/
def errOf : Except RV Attrs → Option RV
  | .error rv => some rv
  | .ok _ => none

example :
    Knows (setA (initAttrs Gen.cls_SECRET_AES) CKA.SENSITIVE (.bool true)) CKA.SENSITIVE true ∧
    Knows (setA (initAttrs Gen.cls_SECRET_AES) CKA.SENSITIVE (.bool true)) CKA.EXTRACTABLE false ∧
    errOf (saveTemplate Gen.cls_SECRET_AES (setA (initAttrs Gen.cls_SECRET_AES) CKA.SENSITIVE (.bool true))
      [⟨CKA.SENSITIVE, some [0], 1, none⟩] OP.SET false false 0) = some CKR.ATTRIBUTE_READ_ONLY ∧
    errOf (saveTemplate Gen.cls_SECRET_AES (setA (initAttrs Gen.cls_SECRET_AES) CKA.SENSITIVE (.bool true))
      [⟨CKA.EXTRACTABLE, some [1], 1, none⟩] OP.SET false false 0) = some CKR.ATTRIBUTE_READ_ONLY := by
  decide +kernel

theorem getBoolD_false_of_default_true (o : Attrs) (t : Nat) (h : getBoolD o t true = false) : getBoolD o t false = false := by
  unfold getBoolD at *
  split at h <;> simp_all

/-- **the concatenation mechanisms hand the protection on** (`deriveFlags`, the model of the CKM_CONCATENATE_* branch of SoftHSM::deriveSymmetric, which the derive matrix K02 compares
    with the library): a key derived from a SENSITIVE base key is sensitive, from an UNEXTRACTABLE base key unextractable - whatever the template asked for; with
    CKM_CONCATENATE_BASE_AND_KEY the same holds for the second key -/
theorem C02_concat_inherits (mech : Nat) (base a : Attrs) (other : Option Attrs) (d : Bool)
    (hm : mech = CKM.CONCATENATE_BASE_AND_DATA ∨ mech = CKM.CONCATENATE_DATA_AND_BASE ∨ (mech = CKM.CONCATENATE_BASE_AND_KEY ∧ other.isSome)) :
    (getBoolD base CKA.SENSITIVE true = true → getBoolD (deriveFlags mech base other a) CKA.SENSITIVE d = true) ∧
    (getBoolD base CKA.EXTRACTABLE true = false → getBoolD (deriveFlags mech base other a) CKA.EXTRACTABLE d = false) ∧
    (∀ ok, mech = CKM.CONCATENATE_BASE_AND_KEY → other = some ok →
      (getBoolD ok CKA.SENSITIVE true = true → getBoolD (deriveFlags mech base other a) CKA.SENSITIVE d = true) ∧
      (getBoolD ok CKA.EXTRACTABLE true = false → getBoolD (deriveFlags mech base other a) CKA.EXTRACTABLE d = false)) := by
  -- `deriveFlags` is a few `setA` under `if`: push `getBoolD` through them
  have hd := getBoolD_false_of_default_true base CKA.EXTRACTABLE
  rcases hm with rfl | rfl | ⟨rfl, ho⟩
  case inr.inr =>
    obtain ⟨ok, rfl⟩ := Option.isSome_iff_exists.mp ho
    simp +contextual [deriveFlags, getBoolD_ite, getBoolD_setA, CKA.SENSITIVE, CKA.EXTRACTABLE, CKA.ALWAYS_SENSITIVE, CKA.NEVER_EXTRACTABLE]
  all_goals
    simp +contextual [deriveFlags, getBoolD_ite, getBoolD_setA, CKA.SENSITIVE, CKA.EXTRACTABLE, CKA.ALWAYS_SENSITIVE, CKA.NEVER_EXTRACTABLE,
      CKM.CONCATENATE_BASE_AND_KEY, CKM.CONCATENATE_BASE_AND_DATA, CKM.CONCATENATE_DATA_AND_BASE] at hd ⊢
    -- what is left: the *_DATA branches read CKA_EXTRACTABLE with default false, the hypothesis with default true
    exact fun h1 h2 => absurd ((hd h1).symm.trans h2) (by decide)

/-- non-vacuity: a sensitive, extractable second key makes the concatenation sensitive -/
example : getBoolD (deriveFlags CKM.CONCATENATE_BASE_AND_KEY [(CKA.SENSITIVE, .bool false), (CKA.EXTRACTABLE, .bool true)] (some [(CKA.SENSITIVE, .bool true), (CKA.EXTRACTABLE, .bool true)]) []) CKA.SENSITIVE false = true := by decide

/-- **a key with CKA_EXTRACTABLE false is never wrapped; a key with CKA_WRAP_WITH_TRUSTED only under a CKA_TRUSTED key** - for every state, every mechanism, every pair of
    handles: whenever the model's C_WrapKey answers CKR_OK, the wrapped key was extractable and, if it demands a trusted wrapping key, got one (corollary of the ONLY-IF
    theorem of C07; the wrap matrix K02 compares all 256 cells with the library) -/
theorem C02_wrap_rules (s : State) (h mech : Nat) (p : MParam) (wkH keyH : Nat) (cap : Option Nat) (oRv : RV) (oLen : Nat) (oData : Option Bytes)
    (e2 : ObjH) (key : Obj) (hkey : resolveObj s keyH = some (e2, key))
    (hprot : getBoolD key.attrs CKA.EXTRACTABLE false = false ∨
             (getBoolD key.attrs 0x210 false = true ∧ ∀ e1 wk, resolveObj s wkH = some (e1, wk) → getBoolD wk.attrs CKA.TRUSTED false = false)) :
    (stepWrap s h mech p wkH keyH cap oRv oLen oData).2.rv ≠ CKR.OK := by
  intro hok
  obtain ⟨e1, wk, e2', key', hwk, hk', _, _, hext, htr⟩ := Shm.C07.C07_wrap_only_if s h mech p wkH keyH cap oRv oLen oData hok
  rw [hkey] at hk'
  cases hk'
  rcases hprot with hne | ⟨hwwt, hun⟩
  · rw [hne] at hext; exact absurd hext (by decide)
  · have := htr hwwt
    rw [hun e1 wk hwk] at this; exact absurd this (by decide)

end Shm.C02
