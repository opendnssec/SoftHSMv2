/-
  C19 — Object search is sound and complete.
-/
import Shm.Lemmas.Guards
namespace Shm.C19

/-- specification of matching: every template entry matches (`matchEntry`), an empty template matches everything -/
def MatchSpec (o : Obj) (tpl : Template) : Prop := ∀ e ∈ tpl, matchEntry o e = some true

/-- the loop with its `break`s computes the specification (when no attribute comparison fails with an error) -/
theorem C19_match_loop_eq_spec (o : Obj) (tpl : Template) (hne : ∀ e ∈ tpl, matchEntry o e ≠ none) :
    matchTpl o tpl = some true ↔ MatchSpec o tpl := by
  induction tpl with
  | nil => simp [matchTpl, MatchSpec]
  | cons e rest ih =>
    have hrest : ∀ e' ∈ rest, matchEntry o e' ≠ none := fun e' he' => hne e' (by simp [he'])
    have he := hne e (by simp)
    unfold matchTpl MatchSpec
    cases hm : matchEntry o e with
    | none => exact absurd hm he
    | some b =>
      cases b
      · simp [hm]
      · simp only [hm, List.mem_cons, forall_eq_or_imp, true_and]
        exact ih hrest

/-- an empty template matches every object -/
theorem C19_empty_template (o : Obj) : matchTpl o [] = some true := rfl

/-- a mismatch stops the loop with "no match" whatever follows -/
theorem C19_mismatch_rejects (o : Obj) (e : TEntry) (rest : Template) (h : matchEntry o e = some false) :
    matchTpl o (e :: rest) = some false := by
  simp [matchTpl, h]

/-- batches handed out by successive C_FindObjects calls -/
def batches : List Nat → List Nat → List (List Nat)
  | _, [] => []
  | res, n :: ns => res.take n :: batches (res.drop n) ns

/-- for EVERY sequence of batch sizes the concatenation of the batches is a prefix of the result list:
    `take (Σ sizes)`; nothing is repeated or skipped -/
theorem C19_batching (res : List Nat) (ns : List Nat) : (batches res ns).flatten = res.take ns.sum := by
  induction ns generalizing res with
  | nil => simp [batches]
  | cons n ns ih =>
    simp only [batches, List.flatten_cons, List.sum_cons, ih]
    rw [List.take_add]

/-- with enough room the batches are exactly the result list -/
theorem C19_batching_complete (res : List Nat) (ns : List Nat) (h : res.length ≤ ns.sum) :
    (batches res ns).flatten = res := by
  rw [C19_batching, List.take_of_length_le h]

/-- the model's C_FindObjects hands out exactly `batches`: one call returns `take n` and keeps `drop n` -/
theorem C19_find_step (s : State) (hi : s.initialised = true) (h n : Nat) (ss : Sess)
    (hs : s.handles.getSess h = some ss) (hop : ss.op = .find) :
    (step s (.find h n)).2 = { rv := CKR.OK, nums := ss.findRes.take n } ∧
    (step s (.find h n)).1.handles = s.handles.setSess h { ss with findRes := ss.findRes.drop n } := by
  simp [step, guardInit_of_init hi, stepFind, hs, hop]

/-- objects of other slots are never candidates; invisible (private, non-user session) objects neither -/
theorem C19_candidates (s : State) (slot : Nat) (st : SState) (tpl : Template) (o : Obj)
    (h : o ∈ ((s.objs.filter fun o => o.slot == slot && visible st o).filter fun o => (matchTpl o tpl) == some true)) :
    o ∈ s.objs ∧ o.slot = slot ∧ visible st o = true ∧ matchTpl o tpl = some true := by
  simp only [List.mem_filter] at h
  obtain ⟨⟨hm, hsv⟩, hmt⟩ := h
  simp at hsv hmt
  exact ⟨hm, hsv.1, hsv.2, hmt⟩

/-- … and every object of the slot that is visible and matches IS a candidate (completeness) -/
theorem C19_candidates_complete (s : State) (slot : Nat) (st : SState) (tpl : Template) (o : Obj)
    (hm : o ∈ s.objs) (hs : o.slot = slot) (hv : visible st o = true) (hmt : matchTpl o tpl = some true) :
    o ∈ ((s.objs.filter fun o => o.slot == slot && visible st o).filter fun o => (matchTpl o tpl) == some true) := by
  simp only [List.mem_filter]
  exact ⟨⟨hm, by simp [hs, hv]⟩, by simp [hmt]⟩

example : batches [10, 11, 12, 13, 14] [0, 2, 1, 5, 3] = [[], [10, 11], [12], [13, 14], []] := by decide

end Shm.C19
