/-
  C04 — only the current PIN authenticates; PIN changes are exact and lossless.

  In the model a token carries the PINs its two key blobs were made from (`Tok.soPin`, `Tok.userPin`): the reading "a blob opens
  exactly under the PIN it was made with".  That reading is CHECKED on every run, not assumed: the Lean driver opens the real
  blobs of the real token.object with its own PBE (SHA-256 × (1500 + salt[7])) and AES-256-CBC and must obtain the same 32-byte
  token key from both, for exactly the PINs the model holds (K04, `Shm.Store.checkDisk`).
-/
import Shm.Lemmas.Pins
import Shm.Lemmas.LoginInv
namespace Shm.C04

/-! ### who can log in -/

/-- **C_Login(CKU_USER)** on a token where nobody is logged in: CKR_OK iff the PIN is the token's current user PIN -/
theorem C04_user_login_iff (s : State) (h : Nat) (ss : Sess) (t : Tok) (p : Bytes)
    (hs : s.handles.getSess h = some ss) (ht : findTok s.slots ss.slot = some t) (hso : t.soIn = false) (hu : t.userIn = false) :
    (stepLogin s h 1 (some p)).2.rv = CKR.OK ↔ t.userPin = some p := by
  rw [stepLogin_user_iff]
  refine ⟨fun ⟨ss', t', hs', ht', _, _, hp⟩ => ?_, fun hp => ⟨ss, t, hs, ht, hso, hu, hp⟩⟩
  rw [hs] at hs'; cases hs'; rw [ht] at ht'; cases ht'; exact hp

/-- **C_Login(CKU_SO)**: with no read-only session and nobody logged in, CKR_OK iff the PIN is the token's current SO PIN -/
theorem C04_so_login_iff (s : State) (h : Nat) (ss : Sess) (t : Tok) (p : Bytes)
    (hs : s.handles.getSess h = some ss) (ht : findTok s.slots ss.slot = some t) (hro : s.handles.haveROSession ss.slot = false)
    (hso : t.soIn = false) (hu : t.userIn = false) :
    (stepLogin s h 0 (some p)).2.rv = CKR.OK ↔ p = t.soPin := by
  rw [stepLogin_so_iff]
  refine ⟨fun ⟨ss', t', hs', ht', _, _, _, hp⟩ => ?_, fun hp => ⟨ss, t, hs, ht, hro, hso, hu, hp.symm⟩⟩
  rw [hs] at hs'; cases hs'; rw [ht] at ht'; cases ht'; exact hp.symm

/-! ### which calls change a PIN, and how -/

/-- **frame**: no call other than C_InitToken, C_InitPIN, C_SetPIN (and the re-reading of the directory by C_Initialize, see
    `C04_initialize_keeps_pins`) changes any PIN of any token — cryptographic calls, object management, logins with wrong PINs,
    C_Finalize and process restarts included -/
theorem C04_frame (s : State) (c : AnyCall) (hc : c.isPinCall = false) (id : Nat) :
    pinOf (stepAny s c).1.slots id = pinOf s.slots id := pinsKept_stepAny s c hc id

/-- C_Initialize reads every token back with the PINs it had (tokens are identified by their serial number) -/
theorem C04_initialize_keeps_pins (s : State) (hi : s.initialised = false) :
    (stepInitialize s).1.slots.filterMap (fun sl => sl.tok.map fun t => (t.serial, t.soPin, t.userPin)) =
    s.slots.filterMap (fun sl => sl.tok.map fun t => (t.serial, t.soPin, t.userPin)) := by
  obtain ⟨free, he, hfree⟩ := stepInitialize_slots s hi
  -- the free slot contributes nothing; re-slotting keeps serial and PINs
  have hnil : free.filterMap (fun sl => sl.tok.map fun t => (t.serial, t.soPin, t.userPin)) = [] :=
    List.filterMap_eq_nil_iff.mpr fun sl h => by rw [hfree sl h]; rfl
  rw [he, List.filterMap_append, hnil, List.append_nil, List.filterMap_filterMap]
  congr 1; funext sl; cases sl.tok <;> rfl

/-- **C_InitPIN is exact**: it succeeds only in an SO session (R/W SO functions) with a PIN of admissible length, sets exactly the
    user PIN of that token to exactly that PIN, keeps the SO PIN and every object; a refused call changes nothing at all -/
theorem C04_initPin (s : State) (h : Nat) (pin : Option Bytes) :
    ((stepInitPin s h pin).2.rv = CKR.OK →
       ∃ ss t p, s.handles.getSess h = some ss ∧ findTok s.slots ss.slot = some t ∧ stateOf t ss.rw = .rwSO ∧ pin = some p ∧ pinLenOk p = true ∧
         (stepInitPin s h pin).1.slots = setTok s.slots ss.slot { t with userPin := some p, userLow := false } ∧
         (stepInitPin s h pin).1.objs = s.objs) ∧
    ((stepInitPin s h pin).2.rv ≠ CKR.OK → (stepInitPin s h pin).1 = s) := by
  have refuse {P : Prop} (rv : RV) (h1 : rv ≠ CKR.OK) : ((rOnly s rv).2.rv = CKR.OK → P) ∧ ((rOnly s rv).2.rv ≠ CKR.OK → (rOnly s rv).1 = s) :=
    ⟨fun h => absurd h h1, fun _ => rfl⟩
  unfold stepInitPin
  split
  · exact refuse _ (by decide)
  next ss hs =>
  split
  · exact refuse _ (by decide)
  next t ht =>
  split
  · exact refuse _ (by decide)
  next hst =>
  split
  · exact refuse _ (by decide)
  next p =>
  split
  · exact refuse _ (by decide)
  next hl => exact ⟨fun _ => ⟨ss, t, p, hs, ht, by simpa using hst, rfl, by simpa using hl, rfl, rfl⟩, fun hne => absurd rfl hne⟩

/-- **C_SetPIN is exact**: it succeeds only in an R/W public, R/W user or SO session state, only with the correct old PIN of the user the session state selects
    (public or user session: the user PIN; SO session: the SO PIN) and a new PIN of admissible length; it then replaces exactly that PIN by
    exactly the new one and keeps the other PIN; whatever the outcome, no object changes -/
theorem C04_setPin (s : State) (h : Nat) (old new : Option Bytes) :
    ((stepSetPin s h old new).2.rv = CKR.OK →
       ∃ ss t o n, s.handles.getSess h = some ss ∧ findTok s.slots ss.slot = some t ∧ old = some o ∧ new = some n ∧ pinLenOk n = true ∧
         (((stateOf t ss.rw = .rwPublic ∨ stateOf t ss.rw = .rwUser) ∧ t.userPin = some o ∧
             (stepSetPin s h old new).1.slots = setTok s.slots ss.slot { t with userPin := some n, userLow := false }) ∨
          (stateOf t ss.rw = .rwSO ∧ t.soPin = o ∧
             (stepSetPin s h old new).1.slots = setTok s.slots ss.slot { t with soPin := n, soLow := false }))) ∧
    (stepSetPin s h old new).1.objs = s.objs := by
  -- a refusal may have raised a PIN-count-low flag: the objects are those of `s`, the state need not be
  have refuse {P : Prop} (s' : State) (x : Resp) (h1 : x.rv ≠ CKR.OK) (h2 : s'.objs = s.objs) : ((s', x).2.rv = CKR.OK → P) ∧ (s', x).1.objs = s.objs :=
    ⟨fun h => absurd h h1, h2⟩
  unfold stepSetPin
  split
  · exact refuse _ _ (by decide) rfl
  next ss hs =>
  split
  · exact refuse _ _ (by decide) rfl
  · exact refuse _ _ (by decide) rfl
  next o n =>
  split
  · exact refuse _ _ (by decide) rfl
  next hl =>
  split
  · exact refuse _ _ (by decide) rfl
  next t ht =>
  have hl' : pinLenOk n = true := by simpa using hl
  split
  · split
    · exact refuse _ _ (by decide) rfl
    next hst hp => exact ⟨fun _ => ⟨ss, t, o, n, hs, ht, rfl, rfl, hl', Or.inl ⟨Or.inl hst, by simpa using hp, rfl⟩⟩, rfl⟩
  · split
    · exact refuse _ _ (by decide) rfl
    next hst hp => exact ⟨fun _ => ⟨ss, t, o, n, hs, ht, rfl, rfl, hl', Or.inl ⟨Or.inr hst, by simpa using hp, rfl⟩⟩, rfl⟩
  · split
    · exact refuse _ _ (by decide) rfl
    next hst hp => exact ⟨fun _ => ⟨ss, t, o, n, hs, ht, rfl, rfl, hl', Or.inr ⟨hst, by simpa using hp, rfl⟩⟩, rfl⟩
  · exact refuse _ _ (by decide) rfl

/-- a refused C_SetPIN leaves both PINs of every token as they were (only the PIN-count-low flag of that user may be raised) -/
theorem C04_setPin_refused (s : State) (h : Nat) (old new : Option Bytes) (hne : (stepSetPin s h old new).2.rv ≠ CKR.OK) (id : Nat) :
    pinOf (stepSetPin s h old new).1.slots id = pinOf s.slots id := by
  have ff : FailFrame true s (stepSetPin s h old new) := by unfold stepSetPin; step_cases <;> ff_leaf
  obtain ⟨-, -, _, e⟩ := ff.edit hne
  exact e.pinOf_eq id

/-- **neither PIN call touches the other user's PIN, another token, or any object** (reading the two exact theorems together with `findTok_setTok`) -/
theorem C04_independent (ss : List Slot) (slot : Nat) (t : Tok) (hf : findTok ss slot = some t) (n : Bytes) (id : Nat) :
    pinOf (setTok ss slot { t with userPin := some n, userLow := false }) id =
      (if id = slot then some (t.soPin, some n) else pinOf ss id) ∧
    pinOf (setTok ss slot { t with soPin := n, soLow := false }) id =
      (if id = slot then some (n, t.userPin) else pinOf ss id) := by
  have hsl := findTok_some_findSlot hf
  unfold pinOf
  constructor <;> (rw [findTok_setTok]; by_cases h : id = slot <;> simp [h, hsl])

/-- non-vacuity: a token with both PINs, an SO session: C_InitPIN succeeds, afterwards exactly the new user PIN logs in -/
example :
    let t : Tok := { label := [], serial := [0x31], soPin := [1, 2, 3, 4], userPin := some [5, 6, 7, 8], soIn := true }
    let s : State := { initialised := true, slots := [{ id := 0, tok := some t }], handles := [(1, .sess { slot := 0, rw := true })], counter := 1 }
    (stepInitPin s 1 (some [9, 9, 9, 9])).2.rv = CKR.OK ∧
    pinOf (stepInitPin s 1 (some [9, 9, 9, 9])).1.slots 0 = some ([1, 2, 3, 4], some [9, 9, 9, 9]) := by decide

end Shm.C04
