/-
  C18 — thread safety with locking enabled.

  Which schedules the library survives is runtime behaviour: it is decided by running real threads under a deterministic scheduler that owns every mutex callback
  (K18-systematic: one call pre-empted at EVERY callback it makes, another thread's calls run inside; K18-random: random scripts and schedules), and judging each run by
  LINEARIZABILITY against this model: some total order of the calls that respects real-time precedence must make the sequential model produce every observed result.
  The theorems below are the facts about the sequential specification that the judgement leans on, for every state and every call:

  * in every sequential history the live handles are pairwise distinct and bounded by the issue counter, and every call keeps the table so (the counter never
    decreases: `C11_counter_mono`): a run that a sequential order explains has not issued a handle twice;
  * a call that fails changes neither the handle table nor any login state: where such a call is placed among the others cannot matter for them;
  * session-local calls of different sessions commute, each returning what it returns alone, and write only the record of their own session: two threads that each
    work in a session of their own are explained by any sequential order;
  * a C_Initialize that asks for locking switches the mutex factory on, whatever came before in the process (`Model/MutexLife.lean`).
-/
import Shm.Props.C03
import Shm.Model.MutexLife
import Shm.Lemmas.StepEdits
import Shm.Lemmas.Commute
namespace Shm.C18

/-- **no handle is issued twice in any sequential history**: after any sequence of calls from the initial state the live handles are strictly ascending (hence pairwise
    distinct) and none exceeds the issue counter -/
theorem C18_sequential_handles_distinct (cs : List Call) :
    (run {} cs).handles.Pairwise (fun a b => a.1 < b.1) ∧ ∀ e ∈ (run {} cs).handles, e.1 ≤ (run {} cs).counter := by
  have h := wf_run {} cs wf_init
  exact ⟨h.asc, h.bound⟩

/-- … and a handle minted later is larger than every live one: the table stays well-formed under every further call, whatever the state -/
theorem C18_step_keeps_handles_distinct (s : State) (c : Call) (h : s.WF) : (step s c).1.WF := wf_step s c h

/-- **a failed call can be placed anywhere**: it leaves the handle table and every token's login state as they were, so the calls of the other threads see the same
    sessions, operations and login state whether it is ordered before or after them -/
theorem C18_failed_call_is_invisible (s : State) (c : Call) (hf : (step s c).2.rv ≠ CKR.OK) :
    (step s c).1.handles = s.handles ∧ ∀ id, loginOf (step s c).1 id = loginOf s id := C03.C03_failed_frame s c hf

/-- **calls of different sessions commute**: for any two session-local calls — C_EncryptInit/DecryptInit/SignInit/VerifyInit, C_DigestInit, every single-part,
    update and final call of encryption, decryption, signing, verification and digesting, C_DigestKey — issued in DIFFERENT sessions, both orders leave the same state,
    and each call returns in either order exactly what it returns when the other call does not happen at all.  So every interleaving of two threads that each run
    cryptographic operations in a session of their own is explained by ANY sequential order, and each thread sees the results it would see alone. -/
theorem C18_session_local_calls_commute (c1 c2 : OpCall) (h1 h2 : Nat) (hc1 : c1.sess? = some h1) (hc2 : c2.sess? = some h2) (hne : h1 ≠ h2) (s : State) :
    (stepOp (stepOp s c1).1 c2).1 = (stepOp (stepOp s c2).1 c1).1 ∧
    (stepOp (stepOp s c1).1 c2).2 = (stepOp s c2).2 ∧
    (stepOp (stepOp s c2).1 c1).2 = (stepOp s c1).2 :=
  commute_frames (f := fun s => stepOp s c1) (g := fun s => stepOp s c2) hne
    (frame_stepOp c1 h1 hc1 h2 hne) (frame_stepOp c2 h2 hc2 h1 (Ne.symm hne)) (loc_stepOp c1 h1 hc1) (loc_stepOp c2 h2 hc2) s

/-- such a call changes at most the record of its own session: sessions of other threads, objects, tokens, login state and the handle counter are untouched -/
theorem C18_session_local_calls_write_own_session (c : OpCall) (h : Nat) (hc : c.sess? = some h) (s : State) :
    (stepOp s c).1 = s ∨ ∃ y, (stepOp s c).1 = { s with handles := s.handles.setSess h y } := loc_stepOp c h hc s

/-- non-vacuity of the commutation theorem: an encryption update in session 1 and a digest final in session 2 are session-local calls of different sessions -/
example : (OpCall.cryptUpdate true 1 (some 16) (some 16) { rv := 0, len := 16, data := none }).sess? = some 1 ∧
    (OpCall.digestFinal 2 (some 32) { rv := 0, len := 32, data := none }).sess? = some 2 := ⟨rfl, rfl⟩

/-- non-vacuity: two sessions opened one after the other get different handles -/
example : ((run {} [.initLib]).WF) := wf_run {} _ wf_init

/-- **Locking asked for is locking switched on**: whatever came before in the process - a C_Initialize(NULL) that switched the mutex factory off, failed attempts, C_Finalize - a
    C_Initialize with CKF_OS_LOCKING_OK or with mutex callbacks answers CKR_OK with the factory switched ON (model `mxTrace`, tied to `MutexFactory::enabled` by `purefn mxseq`) -/
theorem C18_locking_requested_is_enabled (c : Char) (r : List Char) (en : Bool) (hc : c = 'o' ∨ c = 'a') :
    (Shm.MutexLife.mxTrace (c :: r) false en).head? = some (.ini 0 true) := Shm.MutexLife.init_with_locking_enables c r en hc

/-- non-vacuity / the history of the seeded change: no locking, finalize, OS locking -/
example : Shm.MutexLife.mxTrace "nfo".toList false true = [.ini 0 false, .fin 0, .ini 0 true] := by decide

end Shm.C18
