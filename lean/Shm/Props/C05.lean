/-
  C05 — token objects persist durably, faithfully and in a stable on-disk format.

  Two layers.
  (1) The byte format: the Lean codec of Shm/Store/Codec.lean (a total decoder that reproduces `ObjectFile::refresh`
      on every byte string, and the encoder of `writeAttributes`).  Round trip, injectivity, canonical form.
  (2) The state machine: what survives C_Finalize/C_Initialize and a process restart, what never comes back, and that
      no call other than C_SetAttributeValue(on that object) changes an attribute value — for every history of the
      complete machine (core calls, cryptographic calls, key generation, restarts).
  The tie between (1), (2) and the code is the correspondence suite K05: after every few calls and around every
  restart the real token directory is dumped, decoded by (1) (PIN blobs opened and private values decrypted by the Lean
  AES/SHA-256), and must be exactly the image of the model state of (2).
-/
import Shm.Store.CodecLemmas
import Shm.Lemmas.Runs
import Shm.Lemmas.TokenView
import Shm.Gen.StoreSample
import Shm.Store.DiskView
import Shm.Lemmas.BigEndian
import Shm.Lemmas.Guards
namespace Shm.C05
open Shm.Store

/-! ### (1) the format -/

/-- **Round trip**: whatever `writeAttributes` can be handed is read back identically by `refresh` — every attribute kind,
    nested attribute maps included, any number of attributes, any lengths below 2^64. -/
theorem C05_codec_roundtrip (gen : Nat) (attrs : FAttrs) (hg : gen < 2^64) (h : AttrsWF attrs) :
    decodeFile (encodeFile gen attrs) = .valid (some gen) attrs := by
  obtain ⟨f, hf⟩ := decodeFile_prefix gen attrs [] hg h
  simpa [encodeFile, rdAttrs, rdULong] using hf

/-- the encoder loses nothing: different contents give different files -/
theorem C05_encode_injective (g1 g2 : Nat) (a1 a2 : FAttrs) (h1 : g1 < 2^64) (h2 : g2 < 2^64) (w1 : AttrsWF a1) (w2 : AttrsWF a2)
    (he : encodeFile g1 a1 = encodeFile g2 a2) : g1 = g2 ∧ a1 = a2 := by
  have r1 := C05_codec_roundtrip g1 a1 h1 w1
  have r2 := C05_codec_roundtrip g2 a2 h2 w2
  rw [he, r2] at r1
  injection r1 with hg ha
  injection hg with hg
  exact ⟨hg.symm, ha.symm⟩

/-- **What a torn write looks like to the loader** (the format has no length, count or checksum): a file cut at any attribute
    boundary is a VALID object with fewer attributes.  This is the formal content of the C16 finding about in-place rewrites. -/
theorem C05_truncated_at_boundary_is_valid (gen : Nat) (attrs : FAttrs) (k : Nat) (hg : gen < 2^64) (h : AttrsWF attrs) :
    decodeFile (be8 gen ++ (attrs.take k).flatMap encAttr) = .valid (some gen) (attrs.take k) :=
  C05_codec_roundtrip gen (attrs.take k) hg (attrsWF_take h k)

/-- non-vacuity of the hypotheses and a concrete instance (class, token, label, a mechanism set and a nested template) -/
def sampleAttrs : FAttrs :=
  [(0x0, .ulong 4), (0x1, .bool true), (0x3, .bytes [0x61, 0x62]), (0x40000211, .amap [(0x104, .bool true), (0x161, .ulong 16)]),
   (0x40000600, .mechs [0x1081, 0x1082])]

example : decodeFile (encodeFile 7 sampleAttrs) = .valid (some 7) sampleAttrs := by decide +kernel
example : decodeFile (be8 7 ++ (sampleAttrs.take 2).flatMap encAttr) = .valid (some 7) (sampleAttrs.take 2) := by decide +kernel
/-- … and cut in the middle of a value the loader rejects the file -/
example : decodeFile ((encodeFile 7 sampleAttrs).take 45) = .invalid := by decide +kernel
/-- … but cut inside an attribute-TYPE word it is accepted, with the attributes read so far -/
example : decodeFile ((encodeFile 7 sampleAttrs).take 50) = .valid (some 7) (sampleAttrs.take 2) := by decide +kernel

/-! ### (T) the codec against the real writer, executed on this tree -/

/-- what tools/tabledump.cpp put into the sample object (one attribute of every kind, a nested template with all four inner kinds) -/
def writerSample : FAttrs :=
  [(0x0, .ulong 4), (0x1, .bool true), (0x2, .bool false), (0x3, .bytes [0x6c, 0x61, 0x62, 0x65, 0x6c]), (0x102, .bytes []),
   (0x40000211, .amap [(0x3, .bytes [0x69, 0x6e, 0x6e, 0x65, 0x72]), (0x104, .bool true), (0x161, .ulong 32), (0x40000600, .mechs [0x251, 0x1081, 0x1082])]),
   (0x40000600, .mechs [0x251, 0x1081, 0x1082]), (0x8000534B, .ulong 0x42D)]

/-- **T05**: the bytes the real `ObjectFile` wrote for the sample (regenerated into Shm/Gen/StoreSample.lean on every run) decode, with the
    Lean decoder, to exactly the sample — and the Lean encoder reproduces them byte for byte. -/
def sampleAgrees : Bool :=
  match decodeFile Gen.storeSample with
  | .valid (some g) a => a == writerSample && encodeFile g a == Gen.storeSample
  | _ => false

theorem T05_writer_sample : sampleAgrees = true := by decide +kernel

/-- constants the hand-written store model uses, against their values as compiled -/
theorem T05_consts :
    Gen.CKA_OS_TOKENLABEL = Store.CKA_OS_TOKENLABEL ∧ Gen.CKA_OS_TOKENSERIAL = Store.CKA_OS_TOKENSERIAL ∧
    Gen.CKA_OS_TOKENFLAGS = Store.CKA_OS_TOKENFLAGS ∧ Gen.CKA_OS_SOPIN = Store.CKA_OS_SOPIN ∧ Gen.CKA_OS_USERPIN = Store.CKA_OS_USERPIN ∧
    Gen.PBE_ITERATION_BASE_COUNT = 1500 ∧
    (∀ p : Bytes, pinLenOk p = (decide (Gen.MIN_PIN_LEN ≤ p.length) && decide (p.length ≤ Gen.MAX_PIN_LEN))) := by
  refine ⟨rfl, rfl, rfl, rfl, rfl, rfl, fun p => ?_⟩
  simp only [pinLenOk, Gen.MIN_PIN_LEN, Gen.MAX_PIN_LEN]; rfl

/-! ### (2) the state machine -/

/-- the persistent content of the store: identity, privacy and attributes of the token objects -/
def tokView (s : State) : List (Nat × Bool × Attrs) := (s.objs.filter (·.onToken)).map fun o => (o.oid, o.isPriv, o.attrs)

/-- **C_Finalize keeps every token object** with identical attributes and drops every session object -/
theorem C05_finalize (s : State) (hi : s.initialised = true) :
    tokView (stepFinalize s).1 = tokView s ∧ ∀ o ∈ (stepFinalize s).1.objs, o.onToken = true := by
  unfold stepFinalize tokView
  simp only [hi, Bool.not_true, Bool.false_eq_true, if_false, List.filter_filter, Bool.and_self]
  exact ⟨trivial, fun o ho => by simpa using (List.mem_filter.mp ho).2⟩

/-- **a process restart** (with or without C_Finalize) keeps exactly the token objects -/
theorem C05_restart (s : State) :
    tokView (stepRestart s).1 = tokView s ∧ ∀ o ∈ (stepRestart s).1.objs, o.onToken = true :=
  C05_finalize { s with initialised := true } rfl      -- a restart is C_Finalize of the library as if it were initialised

/-- **C_Initialize finds every token object again** with identical attributes (only the slot number is recomputed from the serial) -/
theorem C05_initialize (s : State) (hi : s.initialised = false) : tokView (stepInitialize s).1 = tokView s := by
  unfold stepInitialize tokView
  simp only [hi, Bool.false_eq_true, if_false]
  exact map_map_token _ _ _ fun o => by split <;> exact ⟨rfl, rfl⟩

/-- restart followed by C_Initialize: the store content is what it was -/
theorem C05_restart_initialize (s : State) :
    tokView (stepAny (stepAny s .restart).1 (.core .initLib)).1 = tokView s := by
  have h1 := (C05_restart s).1
  have hi : (stepRestart s).1.initialised = false := by simp [stepRestart]
  simp only [stepAny, step]
  rw [C05_initialize _ hi, h1]

/-- **attribute values are stable**: after any single call, every object that existed before and still exists has identical
    attributes, token/session nature and privacy — unless the call is C_SetAttributeValue on that very object. -/
theorem C05_values_stable (s : State) (c : AnyCall) (o' : Obj) (ho : o' ∈ (stepAny s c).1.objs) (hold : o'.oid < s.nextOid)
    (hne : some o'.oid ≠ changeTarget s c) :
    ∃ o ∈ s.objs, o.oid = o'.oid ∧ o.attrs = o'.attrs ∧ o.onToken = o'.onToken ∧ o.isPriv = o'.isPriv :=
  kept_stepAny s c o' ho hold hne

/-- reachable states: every object id is below the allocation counter -/
def OidInv (s : State) : Prop := ∀ o ∈ s.objs, o.oid < s.nextOid

theorem oidInv_init : OidInv {} := fun _ h => by simp at h

theorem oidInv_runAny (s : State) (cs : List AnyCall) (h : OidInv s) : OidInv (runAny s cs) :=
  oidInv_of_evolves h (evolves_runAny s cs)

/-- **destroyed objects never reappear; object identities are never reused**: an object id that is not in the store and is below
    the allocation counter (every id ever issued is) is in no later state — over arbitrary histories including restarts. -/
theorem C05_never_reappears (s : State) (oid : Nat) (hgone : ∀ o ∈ s.objs, o.oid ≠ oid) (hissued : oid < s.nextOid) (cs : List AnyCall) :
    ∀ o ∈ (runAny s cs).objs, o.oid ≠ oid := by
  intro o ho heq
  rcases (evolves_runAny s cs).2 o ho with ⟨o0, hm, he, _⟩ | ⟨h1, _⟩
  · exact hgone o0 hm (he.trans heq)
  · omega

/-- a successful C_DestroyObject removes the object (so `C05_never_reappears` applies to it from then on) -/
theorem C05_destroy_removes (s : State) (h o : Nat) (hok : (stepDestroy s h o).2.rv = CKR.OK) :
    ∃ ob, (resolveObj s o).map (·.2) = some ob ∧ ∀ x ∈ (stepDestroy s h o).1.objs, x.oid ≠ ob.oid := by
  obtain ⟨e, ob, hres, he⟩ := stepDestroy_ok hok
  exact ⟨ob, by rw [hres]; rfl, fun x hx => by rw [he] at hx; simpa using (List.mem_filter.mp hx).2⟩

/-- the token/session nature of an object never changes, and a session object's owner never changes (so it dies with that session) -/
theorem C05_nature_fixed (s : State) (cs : List AnyCall) (o' : Obj) (ho : o' ∈ (runAny s cs).objs) (hold : o'.oid < s.nextOid) :
    ∃ o ∈ s.objs, o.oid = o'.oid ∧ o.onToken = o'.onToken ∧ o.isPriv = o'.isPriv ∧ o.owner = o'.owner := by
  rcases (evolves_runAny s cs).2 o' ho with h | ⟨h1, _⟩
  · exact h
  · omega

end Shm.C05

/-! ### the stored encodings are built from `ByteString::serialise` / `chainDeserialise` (unit-tied definitions of Shm/Pure) -/
namespace Shm.Pure

/-- **serialised byte strings chain**: what `serialise` wrote is read back exactly by `chainDeserialise`, and the rest of the chain is left for the next read -
    for every value below 2^64 bytes and every continuation -/
theorem C05_serialise_roundtrip (b rest : Bytes) (h : b.length < 2 ^ 64) : chainDeserialise (serialise b ++ rest) = (b, rest) := by
  unfold chainDeserialise serialise ofULong longVal split
  have h8 : (Store.be8 b.length).length = 8 := Store.be8_length _
  simp [h8, Store.beVal_be8 _ h]

/-- `ByteString(unsigned long)` / `long_val` are inverse on 64-bit values (lengths, generation numbers, attribute types and kinds are stored this way) -/
theorem C05_ulong_roundtrip (n : Nat) (h : n < 2 ^ 64) : longVal (ofULong n) = n := by
  unfold longVal ofULong
  rw [List.take_of_length_le (by simp [Shm.Store.be8_length]), Shm.Store.beVal_be8 n h]

example : chainDeserialise (serialise [1, 2, 3] ++ serialise [9]) = ([1, 2, 3], serialise [9]) ∧ longVal (ofULong 258) = 258 := by decide

end Shm.Pure
