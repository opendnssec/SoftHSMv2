/-
  C03 — Session and login state machine follows the PKCS#11 rules.
  Statements are about the executable model `step`; tie: K03 (exhaustive short sequences + histories).
-/
import Shm.Lemmas.HTable
import Shm.Lemmas.Slots
import Shm.Lemmas.LoginInv
import Shm.Lemmas.Guards
namespace Shm.C03

/-- login class reported by a CK_STATE: 0 public, 1 user, 2 SO -/
def loginClass : SState → Nat
  | .roPublic | .rwPublic => 0
  | .roUser | .rwUser => 1
  | .rwSO => 2

/-! ## all sessions of a token report the same login state -/

/-- the login class of the state a session reports depends only on its token, not on the session -/
theorem C03_same_login_class (t : Tok) (rw1 rw2 : Bool) :
    loginClass (stateOf t rw1) = loginClass (stateOf t rw2) := by
  unfold stateOf
  cases t.soIn <;> cases t.userIn <;> cases rw1 <;> cases rw2 <;> rfl

/-- two sessions of the same slot: `C_GetSessionInfo` reports states of the same login class -/
theorem C03_same_state (s : State) (hi : s.initialised = true) (h1 h2 : Nat) (s1 s2 : Sess)
    (g1 : s.handles.getSess h1 = some s1) (g2 : s.handles.getSess h2 = some s2) (hslot : s1.slot = s2.slot)
    (t : Tok) (ht : findTok s.slots s1.slot = some t) :
    (step s (.sessInfo h1)).2 = { rv := CKR.OK, nums := [s1.slot, (stateOf t s1.rw).toNat, CKF_SERIAL + (if s1.rw then CKF_RW else 0)] } ∧
    (step s (.sessInfo h2)).2 = { rv := CKR.OK, nums := [s2.slot, (stateOf t s2.rw).toNat, CKF_SERIAL + (if s2.rw then CKF_RW else 0)] } ∧
    loginClass (stateOf t s1.rw) = loginClass (stateOf t s2.rw) := by
  have ht2 : findTok s.slots s2.slot = some t := hslot ▸ ht
  refine ⟨?_, ?_, C03_same_login_class t _ _⟩
  · simp [step, guardInit_of_init hi, stepSessInfo, g1, ht]
  · simp [step, guardInit_of_init hi, stepSessInfo, g2, ht2]

/-! ## C_Login succeeds only with the correct PIN while nobody is logged in -/

theorem C03_login_user_iff (s : State) (hi : s.initialised = true) (h : Nat) (p : Bytes) :
    (step s (.login h 1 (some p))).2.rv = CKR.OK ↔
      ∃ ss t, s.handles.getSess h = some ss ∧ findTok s.slots ss.slot = some t ∧
              t.soIn = false ∧ t.userIn = false ∧ t.userPin = some p := by
  rw [step, guardInit_of_init hi]
  exact stepLogin_user_iff s h p

theorem C03_login_so_iff (s : State) (hi : s.initialised = true) (h : Nat) (p : Bytes) :
    (step s (.login h 0 (some p))).2.rv = CKR.OK ↔
      ∃ ss t, s.handles.getSess h = some ss ∧ findTok s.slots ss.slot = some t ∧
              s.handles.haveROSession ss.slot = false ∧ t.soIn = false ∧ t.userIn = false ∧ t.soPin = p := by
  rw [step, guardInit_of_init hi]
  exact stepLogin_so_iff s h p

/-- after a successful user login the token of that slot is in the user state, nothing else about logins changed -/
theorem C03_login_user_effect (s : State) (h : Nat) (p : Bytes)
    (hok : (step s (.login h 1 (some p))).2.rv = CKR.OK) :
    ∃ ss, s.handles.getSess h = some ss ∧
      loginOf (step s (.login h 1 (some p))).1 ss.slot = some (false, true) ∧
      ∀ id, id ≠ ss.slot → loginOf (step s (.login h 1 (some p))).1 id = loginOf s id := by
  have hi := guardInit_ok hok
  obtain ⟨ss, t, hs, ht, hso, hu, hp⟩ := (C03_login_user_iff s hi h p).mp hok
  -- the call that succeeds sets the user flag of the session's token
  have e : (step s (.login h 1 (some p))).1.slots = setTok s.slots ss.slot { t with userLow := false, userIn := true } := by
    simp [step, guardInit_of_init hi, stepLogin, hs, ht, hso, hu, hp]
  simp only [loginOf, e, loginAt_setTok _ _ _ _ (findTok_some_findSlot ht), hso]
  exact ⟨ss, hs, if_pos rfl, fun id hid => if_neg hid⟩

theorem C03_login_so_effect (s : State) (h : Nat) (p : Bytes)
    (hok : (step s (.login h 0 (some p))).2.rv = CKR.OK) :
    ∃ ss, s.handles.getSess h = some ss ∧
      loginOf (step s (.login h 0 (some p))).1 ss.slot = some (true, false) ∧
      ∀ id, id ≠ ss.slot → loginOf (step s (.login h 0 (some p))).1 id = loginOf s id := by
  have hi := guardInit_ok hok
  obtain ⟨ss, t, hs, ht, hro, hso, hu, hp⟩ := (C03_login_so_iff s hi h p).mp hok
  have e : (step s (.login h 0 (some p))).1.slots = setTok s.slots ss.slot { t with soLow := false, soIn := true } := by
    simp [step, guardInit_of_init hi, stepLogin, hs, ht, hro, hso, hu, hp]
  simp only [loginOf, e, loginAt_setTok _ _ _ _ (findTok_some_findSlot ht), hu]
  exact ⟨ss, hs, if_pos rfl, fun id hid => if_neg hid⟩

/-- a read-only session cannot be opened while the SO is logged in; nothing changes -/
theorem C03_open_ro_refused_while_so (s : State) (hi : s.initialised = true) (slot flags : Nat) (t : Tok)
    (ht : findTok s.slots slot = some t) (hso : t.soIn = true)
    (hser : (flags / CKF_SERIAL) % 2 = 1) (hro : (flags / CKF_RW) % 2 = 0) :
    step s (.openSession slot flags) = (s, { rv := CKR.SESSION_READ_WRITE_SO_EXISTS }) := by
  obtain ⟨sl, hsl, htok⟩ := Option.bind_eq_some_iff.mp ht
  simp [step, guardInit_of_init hi, stepOpenSession, hsl, htok, hser, hro, hso, rOnly]

/-- C_InitToken is refused while any session on the slot is open; nothing changes -/
theorem C03_initToken_refused_with_session (s : State) (hi : s.initialised = true) (slot : Nat)
    (pin : Option Bytes) (label ser : Bytes) (sl : Slot) (hsl : findSlot s.slots slot = some sl)
    (hsess : s.handles.haveSession slot = true) :
    step s (.initToken slot pin label ser) = (s, { rv := CKR.SESSION_EXISTS }) := by
  simp [step, guardInit_of_init hi, stepInitToken, hsl, hsess, rOnly]

/-- C_Logout through a valid session returns the token to the public state -/
theorem C03_logout_public (s : State) (hi : s.initialised = true) (h : Nat) (ss : Sess) (t : Tok)
    (hs : s.handles.getSess h = some ss) (ht : findTok s.slots ss.slot = some t) :
    (step s (.logout h)).2.rv = CKR.OK ∧ loginOf (step s (.logout h)).1 ss.slot = some (false, false) := by
  simp only [step, guardInit_of_init hi, stepLogout, hs, ht, loginOf]
  exact ⟨trivial, loginAt_logoutSlot_same ht⟩

/-- C_CloseAllSessions returns the token to the public state and leaves no session on the slot -/
theorem C03_closeAll_public (s : State) (hwf : s.WF) (hi : s.initialised = true) (slot : Nat) (t : Tok)
    (ht : findTok s.slots slot = some t) :
    (step s (.closeAll slot)).2.rv = CKR.OK ∧ loginOf (step s (.closeAll slot)).1 slot = some (false, false) ∧
    ∀ k ss, (step s (.closeAll slot)).1.handles.getSess k = some ss → ss.slot ≠ slot := by
  obtain ⟨sl, hf, -⟩ := Option.bind_eq_some_iff.mp ht
  simp only [step, guardInit_of_init hi, stepCloseAll, hf, loginOf]
  refine ⟨trivial, loginAt_logoutSlot_same ht, fun k ss hk => ?_⟩
  -- an entry that `eraseIf` leaves fails its test: it is not of this slot
  have hget := getSess_get hk
  rw [HTable.allSessionsClosed, get_eraseIf hwf] at hget
  simpa [Ent.slot] using (Option.filter_eq_some_iff.mp hget).2

/-- closing the last session of a slot returns the token to the public state; closing another session
    leaves the login state as it was -/
theorem C03_close_login_state (s : State) (hi : s.initialised = true) (h : Nat) (ss : Sess) (t : Tok)
    (hs : s.handles.getSess h = some ss) (ht : findTok s.slots ss.slot = some t) :
    loginOf (step s (.closeSession h)).1 ss.slot =
      (if (s.handles.eraseIf fun k _ => k == h).haveSession ss.slot then some (t.soIn, t.userIn) else some (false, false)) ∧
    ∀ id, id ≠ ss.slot → loginOf (step s (.closeSession h)).1 id = loginOf s id := by
  simp only [step, guardInit_of_init hi, stepCloseSession, hs, loginOf]
  cases hl : (s.handles.eraseIf fun k _ => k == h).haveSession ss.slot
  · exact ⟨loginAt_logoutSlot_same ht, fun id hid => by simp [loginAt_logoutSlot, hid]⟩
  · exact ⟨by simp [loginAt, ht], fun _ _ => rfl⟩

/-! ## invariants of every reachable state -/

/-- states reachable from the initial state by any sequence of calls (any oracle values) -/
def Reachable (s : State) : Prop := ∃ cs : List Call, s = run {} cs

/-- In every reachable state, for every slot: SO and user are never logged in together; while the SO is
    logged in there is no read-only session on the slot; a token without open sessions is in the public
    state. -/
theorem C03_inv (s : State) (hr : Reachable s) (id : Nat) :
    loginOf s id ≠ some (true, true) ∧
    (∀ u, loginOf s id = some (true, u) → s.handles.haveROSession id = false) ∧
    (∀ l, loginOf s id = some l → s.handles.haveSession id = false → l = (false, false)) := by
  obtain ⟨cs, rfl⟩ := hr
  have h := linv_run {} cs wf_init linv_init
  exact ⟨fun e => (h id true true e).1 ⟨rfl, rfl⟩, fun u e => (h id true u e).2.1 rfl,
    fun (so, us) e hs => by obtain ⟨h1, h2⟩ := (h id so us e).2.2 hs; rw [h1, h2]⟩

/-- a call that fails leaves the sessions (the whole handle table) and every token's login state unchanged -/
theorem C03_failed_frame (s : State) (c : Call) (hf : (step s c).2.rv ≠ CKR.OK) :
    (step s c).1.handles = s.handles ∧ ∀ id, loginOf (step s c).1 id = loginOf s id := by
  obtain ⟨h, -, _, e⟩ := (step_failFrame s c).edit hf
  exact ⟨h, e.loginAt_eq⟩

/-- non-vacuity: a reachable state with the SO logged in on one token (so the premises of the invariant
    and of `C03_open_ro_refused_while_so` are met by a concrete history) -/
example :
    let s := run {} [.initLib, .slots, .initToken 0 (some [49,50,51,52]) [65] [48,48,48,48,48,48,48,48],
                     .openSession 0 6, .login 1 0 (some [49,50,51,52])]
    Reachable s ∧ loginOf s 0 = some (true, false) ∧ (step s (.openSession 0 4)).2.rv = CKR.SESSION_READ_WRITE_SO_EXISTS ∧
    (step s (.login 1 1 (some [49]))).2.rv = CKR.USER_ANOTHER_ALREADY_LOGGED_IN := by
  refine ⟨⟨_, rfl⟩, ?_⟩
  decide

end Shm.C03
