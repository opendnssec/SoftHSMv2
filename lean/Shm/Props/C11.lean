/-
  C11 — Handles are never reused and die exactly with what they denote.

  Statements are about the executable model `step` (Shm/Model/Step.lean); the model is tied to the code
  by the correspondence suite K11 (every handle value probed after every call).
  Beside the property theorems the file holds what is stated in C11's own vocabulary: `step_issues` (a walk through the four calls that
  hand out handles: what the response carries is the run of values behind the counter) and `sameThing_of_tableEdit`.
-/
import Shm.Lemmas.StepEdits
import Shm.Lemmas.Guards
namespace Shm.C11

/-! ## Specification vocabulary (written from the property text, not from the model) -/

/-- handle values a call hands out (that its caller did not pass in) -/
def issued (c : Call) (r : Resp) : List Nat :=
  match c with
  | .openSession _ _ => if r.rv = CKR.OK then r.nums else []
  | .create _ _ _ => if r.rv = CKR.OK then r.nums else []
  | .copy _ _ _ _ => if r.rv = CKR.OK then r.nums else []
  | .findInit _ _ _ => if r.rv = CKR.OK then r.nums else []     -- handles minted for objects that had none
  | _ => []

/-- all handle values handed out along a trace -/
def issuedTrace : State → List Call → List Nat
  | _, [] => []
  | s, c :: cs => issued c (step s c).2 ++ issuedTrace (step s c).1 cs

/-- the library stays initialised: no C_Initialize / C_Finalize in the trace -/
def StaysInitialised (cs : List Call) : Prop := ∀ c ∈ cs, c ≠ Call.initLib ∧ c ≠ Call.finiLib

/-- two table entries denote the same session / the same object -/
def sameThing : Ent → Ent → Prop
  | .sess a, .sess b => a.slot = b.slot ∧ a.rw = b.rw
  | .obj a, .obj b => a = b
  | _, _ => False

/-- `h` is the only open session of `slot` -/
def lastSessionOf (s : State) (h slot : Nat) : Bool :=
  !(s.handles.any fun e => e.1 != h && (match e.2 with | .sess x => x.slot == slot | _ => false))

/-- C_CloseSession h: the session itself, the session objects registered under it, and — when it was the
    last session of its slot — everything of the slot -/
def diesOnClose (s : State) (h slot : Nat) (k : Nat) (e : Ent) : Bool :=
  k == h || ownedBy h e || (lastSessionOf s h slot && e.slot == slot)

/-- C_CloseAllSessions slot: everything of the slot -/
def diesOnCloseAll (slot : Nat) (e : Ent) : Bool := e.slot == slot

/-- C_Logout: the private objects of the slot -/
def diesOnLogout (slot : Nat) (e : Ent) : Bool := privOn slot e

/-- what a call hands out is the run of values that follows the counter: `r` is its result in state `s` -/
def Issues (c : Call) (s : State) (r : State × Resp) : Prop :=
  ∃ n, issued c r.2 = (List.range n).map (· + s.counter + 1) ∧ (n = 0 ∨ r.1.counter = s.counter + n)

theorem issues_none {c : Call} {s : State} {r : State × Resp} (h : r.2.nums = []) : Issues c s r :=
  ⟨0, by cases c <;> simp [issued, h], Or.inl rfl⟩

theorem issues_one {c : Call} {s s' : State} {k : Nat} (hc : issued c { rv := CKR.OK, nums := [k] } = [k]) (hk : k = s.counter + 1) (hs : s'.counter = s.counter + 1) :
    Issues c s (s', { rv := CKR.OK, nums := [k] }) := ⟨1, by rw [hc, hk]; simp, Or.inr hs⟩

theorem step_issues (s : State) (c : Call) : Issues c s (step s c) := by
  -- by `simp only [issued]`, not `rfl`: on the four calls that hand out handles `rfl` unfolds the step function before it fails
  cases c <;> try (refine ⟨0, ?_, Or.inl rfl⟩; simp only [issued, List.range_zero, List.map_nil]; done)
  all_goals (simp only [step, guardInit]; split; · exact issues_none rfl)
  case openSession => unfold stepOpenSession; step_cases <;> first | exact issues_none rfl | exact issues_one rfl rfl rfl
  case create => unfold stepCreate; step_cases <;> first | exact issues_none rfl | exact issues_one rfl rfl rfl
  case copy => unfold stepCopy; step_cases <;> first | exact issues_none rfl | exact issues_one rfl rfl rfl
  case findInit =>
    unfold stepFindInit; step_cases <;> first | exact ⟨0, rfl, Or.inl rfl⟩ | skip
    next hc => exact ⟨_, rfl, Or.inr (by simp only [Bool.or_eq_true, bne_iff_ne, not_or, Decidable.not_not] at hc; rw [hc.1.1])⟩

/-- every value a call hands out lies strictly above the counter before the call and at most at the
    counter after it -/
theorem C11_fresh (s : State) (c : Call) (h : Nat) (hh : h ∈ issued c (step s c).2) :
    s.counter < h ∧ h ≤ (step s c).1.counter := by
  obtain ⟨n, hi, hn⟩ := step_issues s c
  rw [hi] at hh
  obtain ⟨i, hi', rfl⟩ := List.mem_map.mp hh
  have := List.mem_range.mp hi'
  rcases hn with rfl | hn <;> omega

/-- while the library stays initialised the counter never decreases -/
theorem C11_counter_mono (s : State) (c : Call) (h1 : c ≠ .initLib) (h2 : c ≠ .finiLib) :
    s.counter ≤ (step s c).1.counter := (step_edits s c h1 h2).table.counter_le

/-- along any trace during which the library stays initialised, every value handed out is above the
    starting counter … -/
theorem C11_issued_above (s : State) (cs : List Call) (hcs : StaysInitialised cs) :
    ∀ h ∈ issuedTrace s cs, s.counter < h := by
  induction cs generalizing s with
  | nil => simp [issuedTrace]
  | cons c cs ih =>
    intro h hh
    simp only [issuedTrace, List.mem_append] at hh
    have hc := hcs c (by simp)
    rcases hh with hh | hh
    · exact (C11_fresh s c h hh).1
    · have := ih (step s c).1 (fun c' hc' => hcs c' (by simp [hc'])) h hh
      have := C11_counter_mono s c hc.1 hc.2
      omega

/-- … and no value is handed out twice: the sequence of issued values is strictly increasing.
    (Session and object handles come from the same sequence, so they never coincide either.) -/
theorem C11_never_reused (s : State) (cs : List Call) (hcs : StaysInitialised cs) :
    (issuedTrace s cs).Pairwise (· < ·) := by
  induction cs generalizing s with
  | nil => simp [issuedTrace]
  | cons c cs ih =>
    simp only [issuedTrace]
    have hc := hcs c (by simp)
    have hrest : StaysInitialised cs := fun c' hc' => hcs c' (by simp [hc'])
    rw [List.pairwise_append]
    refine ⟨?_, ih _ hrest, ?_⟩
    · obtain ⟨n, hi, -⟩ := step_issues s c
      rw [hi, List.pairwise_map]
      exact List.Pairwise.imp (by intro a b hab; omega) List.pairwise_lt_range
    · intro a ha b hb
      have h1 := (C11_fresh s c a ha).2
      have h2 := C11_issued_above (step s c).1 cs hrest b hb
      omega

/-- a value handed out by a call was not a valid handle before the call, nor at any earlier time
    (all earlier values are ≤ the counter; see `C11_dead_forever`) -/
theorem C11_issued_not_in_table (s : State) (hwf : s.WF) (c : Call) (h : Nat) (hh : h ∈ issued c (step s c).2) :
    s.handles.get h = none :=
  get_none_of_gt hwf h (C11_fresh s c h hh).1

/-- a call that fails leaves the whole handle table as it was -/
theorem C11_failed_keeps_all (s : State) (c : Call) (hf : (step s c).2.rv ≠ CKR.OK) :
    (step s c).1.handles = s.handles := ((step_failFrame s c).edit hf).1

/-- C_CloseSession on a valid session handle: exactly the session, the session objects registered under it
    and (if it was the slot's last session) everything of the slot become invalid; every other handle is
    valid afterwards iff it was before, and denotes the same entry. -/
theorem C11_purge_closeSession (s : State) (hwf : s.WF) (hi : s.initialised = true) (h : Nat) (ss : Sess)
    (hs : s.handles.getSess h = some ss) (k : Nat) :
    (step s (.closeSession h)).2.rv = CKR.OK ∧
    (step s (.closeSession h)).1.handles.get k = (s.handles.get k).filter (fun e => !diesOnClose s h ss.slot k e) := by
  simp only [step, guardInit_of_init hi, stepCloseSession, hs]
  refine ⟨trivial, ?_⟩
  rw [get_sessionClosed hwf h k ss hs]
  congr 1; funext e
  simp [diesOnClose, lastSessionOf, isSessOn, Bool.and_assoc]
  congr 2

/-- C_CloseAllSessions on an existing slot: exactly the handles of that slot die -/
theorem C11_purge_closeAll (s : State) (hwf : s.WF) (hi : s.initialised = true) (slot : Nat)
    (hsl : (findSlot s.slots slot).isSome) (k : Nat) :
    (step s (.closeAll slot)).2.rv = CKR.OK ∧
    (step s (.closeAll slot)).1.handles.get k = (s.handles.get k).filter (fun e => !diesOnCloseAll slot e) := by
  obtain ⟨sl, hf⟩ := Option.isSome_iff_exists.mp hsl
  simp only [step, guardInit_of_init hi, stepCloseAll, hf]
  refine ⟨trivial, ?_⟩
  rw [HTable.allSessionsClosed, get_eraseIf hwf]
  rfl

/-- C_Logout through a valid session: exactly the private-object handles of the session's slot die
    (C_Logout always succeeds on a valid session handle, logged in or not) -/
theorem C11_purge_logout (s : State) (hwf : s.WF) (hi : s.initialised = true) (h : Nat) (ss : Sess) (t : Tok)
    (hs : s.handles.getSess h = some ss) (ht : findTok s.slots ss.slot = some t) (k : Nat) :
    (step s (.logout h)).2.rv = CKR.OK ∧
    (step s (.logout h)).1.handles.get k = (s.handles.get k).filter (fun e => !diesOnLogout ss.slot e) := by
  simp only [step, guardInit_of_init hi, stepLogout, hs, ht]
  refine ⟨trivial, ?_⟩
  rw [HTable.tokenLoggedOut, get_eraseIf hwf]
  rfl

/-- C_DestroyObject that succeeds: exactly the handle passed in dies -/
theorem C11_purge_destroy (s : State) (hwf : s.WF) (h o : Nat)
    (hok : (step s (.destroy h o)).2.rv = CKR.OK) (k : Nat) :
    (step s (.destroy h o)).1.handles.get k = if k = o then none else s.handles.get k := by
  have hi := guardInit_ok (r := stepDestroy s h o) hok
  rw [step, guardInit_of_init hi] at hok ⊢
  obtain ⟨e, ob, hres, he⟩ := stepDestroy_ok hok
  rw [he]
  exact get_destroyObject hwf o k e (resolveObj_getObjH hres)

theorem sameThing_refl (e : Ent) : sameThing e e := by cases e <;> simp [sameThing]

theorem sameThing_trans {a b c : Ent} (h1 : sameThing a b) (h2 : sameThing b c) : sameThing a c := by
  cases a <;> cases b <;> cases c <;> simp_all [sameThing]

/-- table changes that erase nothing keep every valid handle valid and denoting the same session or object -/
theorem sameThing_of_tableEdit {opens : Bool} {t t' : HTable} {c c' : Nat} (h : TableEdit false opens t c t' c') (hw : t.WF c) {k : Nat} {e : Ent}
    (hg : t.get k = some e) : ∃ e', t'.get k = some e' ∧ sameThing e e' := by
  induction h generalizing e with
  | keep => exact ⟨e, hg, sameThing_refl e⟩
  | append t c x _ =>
    have hk : k ≤ c := by simpa using hw.bound (k, e) (lookup_mem _ _ _ hg)
    exact ⟨e, by rw [get_append_old hw x k hk]; exact hg, sameThing_refl e⟩
  | setSess t c h ss x hs h1 h2 =>
    refine ⟨updSess h x k e, by rw [get_setSess, hg]; rfl, ?_⟩
    unfold updSess
    split
    · next hkh =>
      rw [eq_of_beq hkh, getSess_get hs] at hg
      cases hg
      exact ⟨h1.symm, h2.symm⟩
    · exact sameThing_refl e
  | erase _ _ _ hp => cases hp
  | trans h1 _ ih1 ih2 =>
    obtain ⟨e1, g1, s1⟩ := ih1 hw hg
    obtain ⟨e2, g2, s2⟩ := ih2 (h1.wf hw) g1
    exact ⟨e2, g2, sameThing_trans s1 s2⟩

/-- every call other than C_Initialize / C_Finalize / C_CloseSession / C_CloseAllSessions / C_Logout /
    C_DestroyObject keeps every valid handle valid and denoting the same session or object -/
theorem C11_other_calls_keep (s : State) (hwf : s.WF) (c : Call) (hc : isPurging c = false)
    (k : Nat) (e : Ent) (hg : s.handles.get k = some e) :
    ∃ e', (step s c).1.handles.get k = some e' ∧ sameThing e e' := by
  have h := (step_edits s c (fun h => by subst h; cases hc) (fun h => by subst h; cases hc)).table
  rw [hc] at h
  exact sameThing_of_tableEdit h hwf hg

/-- a handle value that has been issued (`k ≤ counter`) and is invalid stays invalid across any call:
    the calls only erase entries or add entries above the counter -/
theorem C11_dead_stays_dead (s : State) (hwf : s.WF) (c : Call) (k : Nat) (hk : k ≤ s.counter)
    (hg : s.handles.get k = none) : (step s c).1.handles.get k = none := by
  by_cases h1 : c = .initLib
  · subst h1; simp only [step]; unfold stepInitialize; split <;> first | exact hg | rfl
  by_cases h2 : c = .finiLib
  · subst h2; simp only [step]; unfold stepFinalize; split <;> first | exact hg | rfl
  exact (step_edits s c h1 h2).table.get_none hwf hk hg

/-- “rejected as invalid from then on”: along any trace during which the library stays initialised, a handle
    value that was issued and has become invalid is invalid in every later state -/
theorem C11_dead_forever (s : State) (hwf : s.WF) (cs : List Call) (hcs : StaysInitialised cs) (k : Nat)
    (hk : k ≤ s.counter) (hg : s.handles.get k = none) : (run s cs).handles.get k = none :=
  (foldl_inv (P := fun s => s.WF ∧ k ≤ s.counter ∧ s.handles.get k = none) cs (fun s c hc h =>
    ⟨wf_step s c h.1, Nat.le_trans h.2.1 (C11_counter_mono s c (hcs c hc).1 (hcs c hc).2), C11_dead_stays_dead s h.1 c k h.2.1 h.2.2⟩) ⟨hwf, hk, hg⟩).2.2

/-- the session objects of a closed session are destroyed, and no other object is -/
theorem C11_close_destroys_session_objects (s : State) (hi : s.initialised = true) (h : Nat) (ss : Sess)
    (hs : s.handles.getSess h = some ss) :
    (step s (.closeSession h)).1.objs = s.objs.filter (fun o => o.onToken || o.owner != h) := by
  simp only [step, guardInit_of_init hi, stepCloseSession, hs, objsSessionClosed]
  congr 1; funext o
  cases hot : o.onToken <;> cases hoh : (o.owner == h) <;> simp [bne, hoh]

/-- non-vacuity: a reachable state with two sessions, a session object and a token object, in which
    closing the first session kills exactly its handle and its session object's handle -/
example :
    let s := run {} [.initLib, .slots, .initToken 0 (some [49,50,51,52]) [65] [48,48,48,48,48,48,48,48],
                     .openSession 0 6, .openSession 0 6,
                     .create 1 [⟨0, some (ulongLE 0), 8, none⟩, ⟨1, some [0], 1, none⟩, ⟨2, some [0], 1, none⟩] 0,
                     .create 2 [⟨0, some (ulongLE 0), 8, none⟩, ⟨1, some [1], 1, none⟩, ⟨2, some [0], 1, none⟩] 0]
    s.WF ∧ s.counter = 4 ∧ (s.handles.get 3).isSome ∧ (s.handles.get 4).isSome ∧
    ((step s (.closeSession 1)).1.handles.get 1).isNone ∧ ((step s (.closeSession 1)).1.handles.get 3).isNone ∧
    ((step s (.closeSession 1)).1.handles.get 2).isSome ∧ ((step s (.closeSession 1)).1.handles.get 4).isSome := by
  refine ⟨wf_run _ _ wf_init, ?_⟩
  decide

end Shm.C11
