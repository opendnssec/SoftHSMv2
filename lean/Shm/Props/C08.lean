/-
  C08 — Attribute policy: read-only, one-way and history attributes hold.
  Statements over the GENERATED class table / update programs and the model's entry points.
-/
import Shm.Props.C02
import Shm.Lemmas.NoOk
namespace Shm.C08

/-! ### the object-level gates -/

section
variable (s : State) (h o : Nat) (ss : Sess) (t : Tok) (e : ObjH) (ob : Obj)
variable (hi : s.initialised = true) (hst : sessTok s h = some (ss, t)) (hres : resolveObj s o = some (e, ob))
include hi hst hres

/-- CKA_MODIFIABLE = false: C_SetAttributeValue answers CKR_ACTION_PROHIBITED (when access is granted at all) and changes nothing -/
theorem C08_modifiable_gate (tpl : Template) (oe : RV) (hm : getBoolD ob.attrs CKA.MODIFIABLE true = false)
    (hacc : Gen.haveWrite (stateOf t ss.rw) ob.onToken ob.isPriv = CKR.OK) :
    step s (.setAttr h o tpl oe) = (s, { rv := CKR.ACTION_PROHIBITED }) := by
  simp [step, guardInit_of_init hi, stepSetAttr, hst, hres, hacc, hm, rOnly]

/-- CKA_COPYABLE = false: C_CopyObject answers CKR_ACTION_PROHIBITED and changes nothing -/
theorem C08_copyable_gate (tpl : Template) (oe : RV) (hm : getBoolD ob.attrs CKA.COPYABLE true = false)
    (hacc : Gen.haveRead (stateOf t ss.rw) ob.onToken ob.isPriv = CKR.OK) :
    step s (.copy h o tpl oe) = (s, { rv := CKR.ACTION_PROHIBITED }) := by
  simp [step, guardInit_of_init hi, stepCopy, hst, hres, hacc, hm, rOnly]

/-- CKA_DESTROYABLE = false: C_DestroyObject answers CKR_ACTION_PROHIBITED and changes nothing -/
theorem C08_destroyable_gate (hm : getBoolD ob.attrs CKA.DESTROYABLE true = false)
    (hacc : Gen.haveWrite (stateOf t ss.rw) ob.onToken ob.isPriv = CKR.OK) :
    step s (.destroy h o) = (s, { rv := CKR.ACTION_PROHIBITED }) := by
  simp [step, guardInit_of_init hi, stepDestroy, hst, hres, hacc, hm, rOnly]

/-- copying cannot turn a private object public: CKR_TEMPLATE_INCONSISTENT, nothing changes -/
theorem C08_copy_private_to_public (tpl : Template) (oe : RV) (hp : ob.isPriv = true) (htp : tplBool tpl CKA.PRIVATE = some false)
    (hacc : Gen.haveRead (stateOf t ss.rw) ob.onToken ob.isPriv = CKR.OK) (hc : getBoolD ob.attrs CKA.COPYABLE true = true) :
    step s (.copy h o tpl oe) = (s, { rv := CKR.TEMPLATE_INCONSISTENT }) := by
  simp [step, guardInit_of_init hi, stepCopy, hst, hres, hacc, hc, htp, rOnly]
  simp [hp]

end

/-! ### CKA_TRUSTED can be set true only by the SO -/

/-- table fact, whatever the operation: the programs do not ask for it -/
theorem trusted_tbl : tableKeeps none (some false) CKA.TRUSTED false = true := by decide +kernel

theorem trusted_only_by_so {cd : ClassDesc} (hcd : cd ∈ Gen.classTable) {op : Nat} {o o' : Attrs} {tpl : Template} {isPriv : Bool}
    {oRv : RV} (hk : Knows o CKA.TRUSTED false) (h : saveTemplate cd o tpl op isPriv false oRv = .ok o') :
    Knows o' CKA.TRUSTED false :=
  saveTemplate_keeps trusted_tbl hcd (fun _ hb => nomatch hb) (fun _ hb => Option.some.inj hb) hk h

/-- for every class, every operation kind and every template: while the SO is NOT logged in an accepted template
    leaves CKA_TRUSTED = false as it was (so it becomes true only in an SO session) -/
theorem C08_trusted_only_by_so (cd : ClassDesc) (hcd : cd ∈ Gen.classTable) (op : Nat)
    (hop : op ∈ [OP.COPY, OP.CREATE, OP.DERIVE, OP.GENERATE, OP.SET, OP.UNWRAP])
    (o o' : Attrs) (tpl : Template) (isPriv : Bool) (oRv : RV)
    (hk : Knows o CKA.TRUSTED false)
    (h : saveTemplate cd o tpl op isPriv false oRv = .ok o') : Knows o' CKA.TRUSTED false :=
  trusted_only_by_so hcd hk h

/-- … and the SO can, at creation (the theorem above is not true for the wrong reason); in this code base CKA_TRUSTED
    carries no footnote 8, so after creation nobody can change it -/
example :
    (applyEntries Gen.cls_PUB_RSA OP.CREATE false true 0 [⟨CKA.TRUSTED, some [1], 1, none⟩] (initAttrs Gen.cls_PUB_RSA)).1 = CKR.OK ∧
    Knows (applyEntries Gen.cls_PUB_RSA OP.CREATE false true 0 [⟨CKA.TRUSTED, some [1], 1, none⟩] (initAttrs Gen.cls_PUB_RSA)).2 CKA.TRUSTED true ∧
    (applyEntries Gen.cls_PUB_RSA OP.CREATE false false 0 [⟨CKA.TRUSTED, some [1], 1, none⟩] (initAttrs Gen.cls_PUB_RSA)).1 = CKR.ATTRIBUTE_READ_ONLY := by
  decide +kernel

/-! ### the history attributes cannot be supplied by the caller -/

def historyAttrs : List Nat := [CKA.LOCAL, CKA.KEY_GEN_MECHANISM, CKA.ALWAYS_SENSITIVE, CKA.NEVER_EXTRACTABLE]

def isHistory (ty : Nat) : Bool := historyAttrs.contains ty

/-- in every class their `updateAttr` can never succeed -/
theorem history_tbl :
    (Gen.classTable.all fun cd => cd.attrs.all fun d => !isHistory d.ty || attrNeverOk d) = true := by
  decide +kernel

/-- for every class, every operation kind (create, generate, unwrap, derive, set, copy — any `op` at all) and every
    template that names CKA_LOCAL, CKA_KEY_GEN_MECHANISM, CKA_ALWAYS_SENSITIVE or CKA_NEVER_EXTRACTABLE at ANY position,
    mixed with any other attributes: the template is rejected (and by C09 nothing is stored) -/
theorem C08_history_unsuppliable (cd : ClassDesc) (hcd : cd ∈ Gen.classTable) (op : Nat) (o : Attrs) (tpl : Template)
    (isPriv soIn : Bool) (oRv : RV) (hh : ∃ e ∈ tpl, isHistory e.ty = true) :
    ∃ rv, saveTemplate cd o tpl op isPriv soIn oRv = .error rv := by
  apply saveTemplate_rejects cd op isPriv soIn oRv isHistory _ tpl o hh
  intro d hd hb
  simpa [hb] using List.all_eq_true.mp (List.all_eq_true.mp history_tbl cd hcd) d hd

/-- what C_CreateObject writes itself: CKA_LOCAL = false, and for secret/private keys CKA_ALWAYS_SENSITIVE = false,
    CKA_NEVER_EXTRACTABLE = false (an imported key was not generated here and was once outside) -/
theorem C08_created_history (cls : Nat) (o : Attrs) (hk : cls = CKO.SECRET_KEY ∨ cls = CKO.PRIVATE_KEY) :
    Knows (postCreate cls o) CKA.LOCAL false ∧ Knows (postCreate cls o) CKA.ALWAYS_SENSITIVE false ∧
    Knows (postCreate cls o) CKA.NEVER_EXTRACTABLE false := by
  rcases hk with rfl | rfl
  all_goals
    refine ⟨?_, ?_, ?_⟩
    · exact (Knows.setA_other (Knows.setA_other (Knows.setA_same _ _ _) _ _ (by decide)) _ _ (by decide))
    · exact (Knows.setA_other (Knows.setA_same _ _ _) _ _ (by decide))
    · exact Knows.setA_same _ _ _

/-- read-only attributes: CKA_CLASS / CKA_KEY_TYPE / CKA_TOKEN / CKA_PRIVATE / CKA_MODIFIABLE … are rejected by
    C_SetAttributeValue in every class (their footnotes do not allow a change after creation); checked on the generated
    programs for a concrete value of each kind, for all 25 classes -/
def setRejected (cd : ClassDesc) (ty : Nat) (v : Bytes) : Bool :=
  match saveTemplate cd (initAttrs cd) [⟨ty, some v, v.length, none⟩] OP.SET false false 0 with
  | .error _ => true
  | .ok _ => false

theorem C08_readonly_on_set :
    (Gen.classTable.all fun cd =>
      setRejected cd CKA.CLASS (ulongLE (cd.cls + 1)) && setRejected cd CKA.TOKEN [1] && setRejected cd CKA.PRIVATE [0] &&
      setRejected cd CKA.MODIFIABLE [0] && setRejected cd CKA.DESTROYABLE [0] &&
      (cd.cls == CKO.DATA || cd.cls == CKO.CERTIFICATE || setRejected cd CKA.KEY_TYPE (ulongLE (cd.keyType + 1)))) = true := by
  decide +kernel

end Shm.C08
