/-
  C06 — private objects are encrypted at rest under a key only a PIN unlocks.

  Model side: `AVal.bytes v enc` records whether a byte string is stored through `token->encrypt` (IV ‖ AES-256-CBC under the token
  key).  The update programs are TRANSLATED from P11Attributes.cpp on every run; the theorems below show that none of them — and no
  creation path of SoftHSM.cpp that the model has — can leave a non-empty byte string of a private object unencrypted.
  Code side (K06): the Lean driver decodes the real token directory after every few calls: every non-empty byte string of every
  private object must be IV ‖ ciphertext of the right length, must differ from its plaintext, and must decrypt — with the Lean AES,
  under the key obtained by opening the PIN blob with the Lean PBE — to the value the API returns; the token key itself must occur
  nowhere in the directory; public objects are stored in the clear (so the check is not vacuous); no file mode bit lies inside
  objectstore.umask.
-/
import Shm.Lemmas.Runs
namespace Shm.C06

/-- **T06** (regenerated tables): in every object class every attribute's `updateAttr`, as translated from the source of this run, stores
    byte strings only through the encrypting pattern `P11Attribute::updateAttr` (or a named idiom built on it), the generic
    `P11Attribute::update` contains no byte-string store at all, and no default value is a non-empty byte string -/
theorem T06_sites :
    Gen.classTable.all (fun cd => classNoPlain cd && encOKb (initAttrs cd)) = true ∧ noPlain Gen.genericUpdate = true :=
  ⟨classTable_noPlain, genericUpdate_noPlain⟩

/-- **C06, invariant**: in every state reachable by any history of the complete machine (object creation, copy with public→private
    upgrade, attribute changes, key and key-pair generation, PIN changes, token re-initialisation, restarts, cryptographic calls),
    every non-empty byte-string attribute of a private object is stored encrypted — and of a public object in the clear -/
theorem C06_encrypted_at_rest (cs : List AnyCall) (o : Obj) (ho : o ∈ (runAny {} cs).objs) (ty : Nat) (v : Bytes) (enc : Bool)
    (hm : (ty, AVal.bytes v enc) ∈ o.attrs) (hne : v ≠ []) : enc = o.isPriv :=
  encInv_reachable cs o ho ty v enc hm hne

/-- one step, from any state satisfying the invariants (for use with histories that do not start at the empty state) -/
theorem C06_step (s : State) (c : AnyCall) (h1 : OidInv s) (h2 : OidNodup s) (h3 : EncInv s) :
    OidInv (stepAny s c).1 ∧ OidNodup (stepAny s c).1 ∧ EncInv (stepAny s c).1 :=
  inv_stepAny s c ⟨h1, h2, h3⟩

/-- the public→private upgrade of C_CopyObject re-encrypts what it copies: the only direction a copy can change privacy -/
theorem C06_copy_upgrade (o : Attrs) (h : EncOK false o) : EncOK true (copyAttrs o false true) :=
  encOK_copyAttrs h (by simp)

/-- **file and directory modes**: `open(path, flags, 0666 & ~umask)` / `mkdir(path, 0777 & ~umask)` (File.cpp, Directory.cpp) can set no
    bit inside the configured umask — for every umask and every base mode -/
theorem C06_mode (base umask : BitVec 12) : (base &&& ~~~umask) &&& umask = 0#12 := by
  ext i
  simp

/-- non-vacuity: a private data object created through the model's C_CreateObject carries its value encrypted, a public one in clear -/
example : valOK true (.bytes [1, 2, 3] true) ∧ ¬ valOK true (.bytes [1, 2, 3] false) := by
  constructor
  · exact Or.inr rfl
  · intro h; rcases h with h | h <;> simp at h

end Shm.C06
