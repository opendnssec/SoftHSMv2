/-
  C17 — no input makes the library crash, corrupt memory or kill the host process.

  Memory safety of the C++ code is not something a theorem about a model can exhibit: it is OBSERVED, by running the library built with
  AddressSanitizer + UndefinedBehaviorSanitizer on hostile call sequences, degenerate key objects, damaged token directories and
  damaged configuration files (suites K17-*).  What IS logic, and is modelled and proved here for every input, is the part the property
  calls "bounded parsing" and "size arithmetic":

  * the object-file reader never hands out more bytes than the file holds, whatever the length fields say (the model of File::read*);
  * a file only loads as an object when it is a complete sequence of well-formed attributes (at least 25 bytes);
  * PKCS#7 / RFC 5652 unpadding refuses the empty string and never looks outside its input (RFC5652Unpad);
  * an empty or short wrapped key is refused by every symmetric unwrapping mechanism.

  K17-files ties the first two to the real loader on arbitrary bytes: after every round of damage, the number of objects the library finds
  equals the number of files `loadsValid` accepts.
-/
import Shm.Model.MutexLife
import Shm.Props.C16
import Shm.Lemmas.ModesLemmas
import Shm.Lemmas.WrapLemmas
import Shm.Lemmas.PureLemmas
import Shm.Pure.Config
import Shm.Lemmas.ConfigLemmas
namespace Shm.C17
open Shm.Store Shm.Crypto

/-- **File::readULong** consumes exactly 8 bytes that are there -/
theorem C17_rdULong_bounded (bs r : Bytes) (n : Nat) (h : rdULong bs = some (n, r)) : bs.length = 8 + r.length ∧ r = bs.drop 8 := by
  unfold rdULong at h
  split at h
  · cases h
  · simp only [Option.some.injEq, Prod.mk.injEq] at h
    obtain ⟨_, rfl⟩ := h
    simp only [List.length_drop, and_true]; omega

/-- **File::readByteString never yields bytes that are not in the file**: the value and the rest are consecutive pieces of the input after the 8-byte length -/
theorem C17_rdBytes_bounded (bs v r : Bytes) (h : rdBytes bs = some (v, r)) : bs.drop 8 = v ++ r ∧ bs.length = 8 + v.length + r.length := by
  unfold rdBytes at h
  cases hu : rdULong bs with
  | none => simp [hu] at h
  | some p =>
    obtain ⟨len, r0⟩ := p
    obtain ⟨hl, hr⟩ := C17_rdULong_bounded bs r0 len hu
    simp only [hu] at h
    split at h
    · cases h
    · simp only [Option.some.injEq, Prod.mk.injEq] at h
      obtain ⟨rfl, rfl⟩ := h
      subst hr
      refine ⟨(List.take_append_drop len _).symm, ?_⟩
      simp only [List.length_take, List.length_drop] at *; omega

/-- **a length field larger than what is left of the file** (2^63, say) makes the read fail; nothing is allocated or returned for it -/
theorem C17_rdBytes_huge_length (bs r : Bytes) (len : Nat) (h : rdULong bs = some (len, r)) (hbig : r.length < len) : rdBytes bs = none := by
  simp [rdBytes, h, hbig]

example : rdBytes (be8 (2^63) ++ [1, 2, 3]) = none := by decide

theorem rdULong_nil : rdULong [] = none := by simp [rdULong]
theorem rdBytes_nil : rdBytes [] = none := by simp [rdBytes, rdULong_nil]
theorem rdMechs_nil : rdMechs [] = none := by simp [rdMechs, rdULong_nil]
theorem rdMap_nil : rdMap [] = none := by simp [rdMap, rdULong_nil]

/-- fewer than 17 bytes after the generation word hold no attribute: the loop ends without one, or the file is corrupt -/
theorem rdAttrs_short (fuel : Nat) (r : Bytes) (acc : FAttrs) (h : r.length < 17) : rdAttrs fuel r acc = some acc ∨ rdAttrs fuel r acc = none := by
  cases fuel with
  | zero => left; simp [rdAttrs]
  | succ fuel =>
    unfold rdAttrs
    cases ht : rdULong r with
    | none => left; rfl
    | some p1 =>
      obtain ⟨ty, r1⟩ := p1
      obtain ⟨hl1, _⟩ := C17_rdULong_bounded r r1 ty ht
      right
      cases hk : rdULong r1 with
      | none => simp only [hk]
      | some p2 =>
        obtain ⟨kind, r2⟩ := p2
        obtain ⟨hl2, _⟩ := C17_rdULong_bounded r1 r2 kind hk
        have h0 : r2 = [] := by
          cases r2 with
          | nil => rfl
          | cons a t => simp only [List.length_cons] at hl2; omega
        subst h0
        -- every reader fails on what is left (nothing), so every branch of the switch on the kind is `none`
        simp only [hk, rdBool, rdULong_nil, rdBytes_nil, rdMechs_nil, rdMap_nil, ite_self]

/-- a file that loads as an object holds at least a generation word, one attribute type, its kind and one byte of value -/
theorem C17_loadsValid_min_length (bs : Bytes) (h : loadsValid bs = true) : 25 ≤ bs.length := by
  unfold loadsValid decodeFile at h
  by_cases he : bs.isEmpty
  · simp [he] at h
  · simp only [he, Bool.false_eq_true, if_false] at h
    cases hg : rdULong bs with
    | none => simp [hg] at h
    | some p =>
      obtain ⟨g, r⟩ := p
      obtain ⟨hl, _⟩ := C17_rdULong_bounded bs r g hg
      simp only [hg] at h
      by_cases hs : r.length < 17
      · rcases rdAttrs_short (r.length + 1) r [] hs with h1 | h1 <;> simp [h1] at h
      · omega

/-- … in particular neither the empty file nor a bare generation word is an object (the state an interrupted creation leaves, C16) -/
example : loadsValid [] = false ∧ loadsValid (be8 7) = false := by decide

/-- what the loader accepts is a subset of the files that are there -/
theorem C17_countLoadable_le (ents : List DEntry) : countLoadable ents ≤ (objectFiles ents).length := by
  unfold countLoadable; exact List.length_filter_le _ _

/-- **RFC5652Unpad refuses the empty string** (the case in which the C++ code read the byte before its buffer, fixed in 374db8b) -/
theorem C17_unpad_empty (bs : Nat) : pkcs7Unpad bs [] = none := by simp [pkcs7Unpad]

/-- **RFC5652Unpad only ever shortens its input**: an accepted padding is between 1 and the block size bytes long and lies inside the input -/
theorem C17_unpad_bounded (bs : Nat) (m k : Bytes) (h : pkcs7Unpad bs m = some k) :
    ∃ pad : Bytes, m = k ++ pad ∧ 0 < pad.length ∧ pad.length ≤ bs ∧ pad.length ≤ m.length := by
  obtain ⟨c, h1, h2, h3, h4⟩ := pkcs7Unpad_sound bs m k h
  exact ⟨_, h4, by rw [List.length_replicate]; exact h1, by rw [List.length_replicate]; exact h2, by rw [List.length_replicate]; exact h3⟩

/-- **an empty wrapped key is refused by every symmetric unwrapping mechanism**, whatever the key and the parameter -/
theorem C17_unwrap_empty_refused (mech : Nat) (p : MParam) (kek : Bytes) : ∃ rv, unwrapSym mech p kek [] = .error rv :=
  unwrapSym_short mech p kek [] (by decide)

end Shm.C17

/-! ### the remaining byte-level readers never hand out more than they were given (unit-tied definitions of Shm/Pure) -/
namespace Shm.Pure

/-- **`chainDeserialise` on ANY bytes** (a damaged blob, a length field of 2^64 - 1): value and remainder together are exactly the input behind the 8 header bytes -
    never a byte that was not there -/
theorem C17_chainDeserialise_bounded (s : Bytes) : (chainDeserialise s).1.length + (chainDeserialise s).2.length = s.length - 8 := by
  rw [← List.length_append, chainDeserialise_append, List.length_drop]

/-- `ByteString::substr` never reads past the end, whatever start and length are asked for -/
theorem C17_substr_bounded (b : Bytes) (start len : Nat) : (substr b start len).length ≤ len ∧ (substr b start len).length ≤ b.length - start := by
  simp [substr]; omega

/-- `DERUTIL::octet2Raw` on ANY bytes returns a suffix of its input (the empty string for everything malformed) -/
theorem C17_octet2Raw_suffix (r : Bytes) : ∃ k, octet2Raw r = r.drop k := by
  have hnil : ∀ x : Bytes, ([] : Bytes) = x.drop x.length := by intro x; simp
  unfold octet2Raw
  split
  · dsimp only
    repeat' split
    all_goals first | exact ⟨_, rfl⟩ | exact ⟨_, hnil _⟩
  · exact ⟨_, hnil _⟩

end Shm.Pure

/-! ### the configuration file: any byte content (unit-tied model of SimpleConfigLoader / Configuration) -/
namespace Shm.Pure.Config

/-- **comments and NUL bytes**: whatever follows a `#`, or a NUL byte, on a line has no effect on what the loader makes of the line - for ALL byte strings before and after -/
theorem C17_conf_line_cut (a b : Bytes) : parseLine (a ++ 0x23 :: b) = parseLine a ∧ parseLine (a ++ 0 :: b) = parseLine a := by
  -- `cutLine` stops at the first `#` or NUL (as at CR, LF): the line the loader works on is the same
  constructor <;> (unfold parseLine; rw [cutLine_eq, cutLine_eq, takeWhile_append_stop _ a b _ (by decide)])

/-- **an assignment line means what it says**: `name = value` with any blanks around two plain tokens (no blanks, `=`, `#`, NUL, CR, LF inside), followed by a newline and anything -/
theorem C17_conf_assignment (n v s1 s2 s3 s4 tail : Bytes) (hn : PlainTok n) (hv : PlainTok v)
    (h1 : ∀ c ∈ s1, blank c = true) (h2 : ∀ c ∈ s2, blank c = true) (h3 : ∀ c ∈ s3, blank c = true) (h4 : ∀ c ∈ s4, blank c = true) :
    parseLine (s1 ++ n ++ s2 ++ 0x3d :: (s3 ++ v ++ s4) ++ 0x0a :: tail) = some (n, v) := parseLine_assign n v s1 s2 s3 s4 tail hn hv h1 h2 h3 h4

/-- THE LAST ASSIGNMENT WINS, whatever the file holds before it (damaged lines, other assignments of the same name, binary garbage): a string setting has the value of the
    last chunk `fgets` delivers that assigns it.  (`load file = loadChunks [] (fileChunks file)` by definition.) -/
theorem C17_conf_last_assignment_wins (k : String) (pre post : List Bytes) (c n v : Bytes) (s : Settings)
    (hp : parseLine c = some (n, v)) (hk : typeOf n = some (k, .str)) (hpost : ∀ c' ∈ post, touches k c' = false) :
    (loadChunks s (pre ++ c :: post)).get k = some (.str v) := loadChunks_last_wins k pre post c n v s hp hk hpost

/-- the loader is a total function of the file's bytes: every file yields at most one value per known setting (no setting is reported twice) -/
theorem C17_conf_settings_functional (s : Settings) (k : String) (v : CVal) : ((s.set k v).filter (·.1 == k)).length = 1 := by
  simp [Settings.set, List.filter_filter]

/-- non-vacuity of the last-assignment theorem: a file that sets the same name three times, with a damaged line in between -/
example : (load ("log.level = DEBUG\n=\x00junk\nlog.level = INFO\nslots.removable = true\nlog.level = ERROR\n# end\n".toUTF8.toList)).get "log.level"
    = some (.str "ERROR".toUTF8.toList) := by decide +kernel

/-- non-vacuity: a real line -/
example : parseLine ("slots.removable\t=  true # as shipped\n".toUTF8.toList) = some ("slots.removable".toUTF8.toList, "true".toUTF8.toList) := by decide +kernel

end Shm.Pure.Config

/-! ### the library's mutexes across C_Initialize / C_Finalize (model: Shm/Model/MutexLife.lean; tie: K17-conf with the three locking flavours and `nop mxstat`) -/
namespace Shm.C17

/-- **No mutex is ever locked or destroyed by mutex functions other than the ones that created it, and none survives outside an initialised period** - for every history of
    C_Initialize (locking disabled, OS locking, application callbacks; succeeding or failing behind the creation of the singletons), C_Finalize and other calls.
    This is the code as repaired by `fix: a failed C_Initialize releases the singletons it created`. -/
theorem C17_mutex_functions_never_mixed (ops : List Shm.MutexLife.Op) :
    (Shm.MutexLife.run true ops {}).misuse = 0 ∧ ((Shm.MutexLife.run true ops {}).initialised = false → (Shm.MutexLife.run true ops {}).singletons = [] ∧ (Shm.MutexLife.run true ops {}).managers = []) :=
  let h := Shm.MutexLife.run_inv ops {} Shm.MutexLife.init_inv
  ⟨h.1, h.2.1⟩

/-- the same history on the pinned tree (failure keeps the singletons): the registry's mutex, made by the application's callbacks, is locked by the OS functions -/
theorem C17_pinned_tree_mixed_mutex_functions : (Shm.MutexLife.run false [.init .app false, .init .os true, .work] {}).misuse > 0 := Shm.MutexLife.pinned_tree_misuses

/-- non-vacuity: a history with two failures, three flavours and work in between ends with nothing alive -/
example : (Shm.MutexLife.run true [.init .app false, .init .os true, .work, .fini, .init .none false, .init .app true, .work, .fini] {}).singletons = [] := by decide

end Shm.C17

