/-
  The decoder of Shm/Store/Codec.lean inverts the encoder.  Every reader is stated on `enc x ++ rest` for ANY rest, and the two loops get a
  lemma for ONE well-formed entry with whatever follows (`rdMapBody_entry`, `rdAttrs_entry`); the round trip, the torn files of C16 and
  every file with a damaged tail are then instances of `decodeFile_prefix`.
-/
import Shm.Lemmas.BigEndian
import Shm.Lemmas.Lists
namespace Shm.Store

theorem rdULong_be8 (n : Nat) (r : Bytes) (h : n < 2^64) : rdULong (be8 n ++ r) = some (n, r) := by
  have hl : ¬ (be8 n ++ r).length < 8 := by simp [be8_length]
  rw [rdULong, if_neg hl, List.take_left' (be8_length n), List.drop_left' (be8_length n), beVal_be8 n h]

theorem rdBool_enc (b : Bool) (r : Bytes) : rdBool (encBool b ++ r) = some (b, r) := by
  cases b <;> rfl

theorem rdBytes_enc (v r : Bytes) (h : v.length < 2^64) : rdBytes (encBytes v ++ r) = some (v, r) := by
  simp [rdBytes, encBytes, rdULong_be8 _ _ h]

theorem insertAscNat_last (x : Nat) (acc : List Nat) (h : ∀ y ∈ acc, y < x) : insertAscNat x acc = acc ++ [x] := by
  induction acc with
  | nil => rfl
  | cons y ys ih =>
    have hy : y < x := h y (by simp)
    simp [insertAscNat, Nat.lt_asymm hy, Nat.ne_of_gt hy, ih fun z hz => h z (by simp [hz])]

theorem mapSet_last {α : Type} (k : Nat) (v : α) (acc : List (Nat × α)) (h : ∀ e ∈ acc, e.1 < k) : mapSet k v acc = acc ++ [(k, v)] := by
  induction acc with
  | nil => rfl
  | cons e es ih =>
    have hy : e.1 < k := h e (by simp)
    simp [mapSet, Nat.lt_asymm hy, Nat.ne_of_gt hy, ih fun z hz => h z (by simp [hz])]

theorem mapInsertKeep_last {α : Type} (k : Nat) (v : α) (acc : List (Nat × α)) (h : ∀ e ∈ acc, e.1 < k) : mapInsertKeep k v acc = acc ++ [(k, v)] := by
  induction acc with
  | nil => rfl
  | cons e es ih =>
    have hy : e.1 < k := h e (by simp)
    simp [mapInsertKeep, Nat.lt_asymm hy, Nat.ne_of_gt hy, ih fun z hz => h z (by simp [hz])]

theorem below_of_pairwise {α : Type} {acc l : List (Nat × α)} {e : Nat × α}
    (h : ((acc ++ e :: l).map Prod.fst).Pairwise (· < ·)) : ∀ y ∈ acc, y.1 < e.1 := by
  intro y hy
  rw [List.map_append, List.pairwise_append] at h
  exact h.2.2 y.1 (List.mem_map_of_mem hy) e.1 (by simp)

def AscNat (l : List Nat) : Prop := l.Pairwise (· < ·) ∧ ∀ x ∈ l, x < 2^64

theorem rdMechWords_enc (l acc : List Nat) (r : Bytes) (h : (acc ++ l).Pairwise (· < ·)) (hb : ∀ x ∈ l, x < 2^64) :
    rdMechWords l.length (l.flatMap be8 ++ r) acc = some (acc ++ l, r) := by
  induction l generalizing acc with
  | nil => simp [rdMechWords]
  | cons x xs ih =>
    have hlt : ∀ y ∈ acc, y < x := fun y hy => (List.pairwise_append.mp h).2.2 y hy x (by simp)
    simp only [List.length_cons, rdMechWords, List.flatMap_cons, List.append_assoc, rdULong_be8 _ _ (hb x (by simp)), insertAscNat_last x acc hlt]
    rw [ih (acc ++ [x]) (by simpa using h) (fun y hy => hb y (by simp [hy]))]
    simp

theorem flatMap_be8_length (l : List Nat) : (l.flatMap be8).length = 8 * l.length := length_flatMap_const l fun _ _ => rfl

theorem rdMechs_enc (l : List Nat) (r : Bytes) (h : AscNat l) (hl : l.length < 2^64) : rdMechs (encMechs l ++ r) = some (l, r) := by
  have : ¬ (l.flatMap be8 ++ r).length / 8 < l.length := by
    simp only [List.length_append, flatMap_be8_length]; omega
  simp only [rdMechs, encMechs, List.append_assoc, rdULong_be8 _ _ hl, this, if_false]
  simpa using rdMechWords_enc l [] r (by simpa using h.1) h.2

/-! ### well-formed values: what the encoder can represent -/

def MVal.WF : MVal → Prop
  | .bool _ => True
  | .ulong n => n < 2^64
  | .bytes v => v.length < 2^64
  | .mechs l => AscNat l ∧ l.length < 2^64

def MapWF (l : List (Nat × MVal)) : Prop :=
  (l.map Prod.fst).Pairwise (· < ·) ∧ (∀ e ∈ l, e.1 < 2^64 ∧ e.2.WF) ∧ (l.flatMap encMEntry).length < 2^64

def FVal.WF : FVal → Prop
  | .bool _ => True
  | .ulong n => n < 2^64
  | .bytes v => v.length < 2^64
  | .amap l => MapWF l
  | .mechs l => AscNat l ∧ l.length < 2^64

/-- what `writeAttributes` can be handed: ascending distinct attribute types (a `std::map`), every number in 64 bits -/
def AttrsWF (l : FAttrs) : Prop :=
  (l.map Prod.fst).Pairwise (· < ·) ∧ ∀ e ∈ l, e.1 < 2^64 ∧ e.2.WF

theorem MVal.payload_len (v : MVal) : v.payload.length =
    match v with | .bool _ => 1 | .ulong _ => 8 | .bytes b => 8 + b.length | .mechs l => 8 + l.length * 8 := by
  cases v with
  | bool b => simp [MVal.payload, encBool]
  | ulong n => simp [MVal.payload, be8_length]
  | bytes b => simp only [MVal.payload, encBytes, List.length_append, be8_length]
  | mechs l => simp only [MVal.payload, encMechs, List.length_append, be8_length, flatMap_be8_length]; omega

theorem encMEntry_length (e : Nat × MVal) : (encMEntry e).length = 16 + e.2.payload.length := by
  simp [encMEntry, be8_length]; omega

theorem MVal.kind_lt (v : MVal) : v.kind < 2^64 := by cases v <;> simp [MVal.kind]
theorem FVal.kind_lt (v : FVal) : v.kind < 2^64 := by cases v <;> simp [FVal.kind]

/-- **one entry of an attribute map**, for ANY announced rest `n` and any bytes behind the entry: `File::readAttributeMap` takes the entry and
    charges exactly its length (what it charges per kind is `MVal.payload_len`) -/
theorem rdMapBody_entry (k : Nat) (v : MVal) (acc : List (Nat × MVal)) (rest : Bytes) (fuel n : Nat)
    (hk : k < 2^64) (hv : v.WF) (hlt : ∀ y ∈ acc, y.1 < k) :
    rdMapBody (fuel + 1) ((encMEntry (k, v)).length + n) (encMEntry (k, v) ++ rest) acc = rdMapBody fuel n rest (acc ++ [(k, v)]) := by
  have e (c : Nat) : ¬ c + n < c ∧ c + n - c = n ∧ ¬ 16 + c < 8 ∧ ¬ 16 + c - 8 < 8 := by omega
  rw [encMEntry_length, Nat.add_assoc, v.payload_len]
  simp only [rdMapBody, encMEntry, List.append_assoc, rdULong_be8 _ _ hk, rdULong_be8 _ _ v.kind_lt, Nat.add_sub_cancel_left, e]
  cases v with
  | bool b => simp [MVal.kind, MVal.payload, rdBool_enc, mapInsertKeep_last k _ acc hlt, e]
  | ulong m => simp [MVal.kind, MVal.payload, rdULong_be8 _ _ (show m < 2^64 from hv), mapInsertKeep_last k _ acc hlt, e]
  | bytes b => simp [MVal.kind, MVal.payload, rdBytes_enc _ _ (show b.length < 2^64 from hv), mapInsertKeep_last k _ acc hlt, e]
  | mechs l => simp [MVal.kind, MVal.payload, rdMechs_enc _ _ hv.1 hv.2, mapInsertKeep_last k _ acc hlt, e]

theorem rdMapBody_enc (l acc : List (Nat × MVal)) (r : Bytes) (fuel : Nat) (hf : l.length < fuel)
    (h : ((acc ++ l).map Prod.fst).Pairwise (· < ·)) (hb : ∀ e ∈ l, e.1 < 2^64 ∧ e.2.WF) :
    rdMapBody fuel (l.flatMap encMEntry).length (l.flatMap encMEntry ++ r) acc = some (acc ++ l, r) := by
  induction l generalizing acc fuel with
  | nil => cases fuel with
    | zero => simp at hf
    | succ f => simp [rdMapBody]
  | cons e es ih => cases fuel with
    | zero => simp at hf
    | succ f =>
      have he := hb e (by simp)
      rw [List.flatMap_cons, List.length_append, List.append_assoc, rdMapBody_entry e.1 e.2 acc _ f _ he.1 he.2 (below_of_pairwise h),
        ih (acc ++ [e]) f (by simpa using hf) (by simpa using h) (fun y hy => hb y (by simp [hy]))]
      simp

theorem rdMap_enc (l : List (Nat × MVal)) (r : Bytes) (h : MapWF l) : rdMap (encMap l ++ r) = some (l, r) := by
  simp only [rdMap, encMap, List.append_assoc, rdULong_be8 _ _ h.2.2]
  have := rdMapBody_enc l [] r ((l.flatMap encMEntry ++ r).length + 1)
    (by have := length_le_flatMap encMEntry (fun e => by rw [encMEntry_length]; omega) l; simp only [List.length_append]; omega)
    (by simpa using h.1) h.2.1
  simpa using this

/-- **one attribute of an object file**, whatever follows it: the loop of `ObjectFile::refresh` takes it and goes on behind it -/
theorem rdAttrs_entry (k : Nat) (v : FVal) (acc : FAttrs) (rest : Bytes) (fuel : Nat)
    (hk : k < 2^64) (hv : v.WF) (hlt : ∀ y ∈ acc, y.1 < k) :
    rdAttrs (fuel + 1) (encAttr (k, v) ++ rest) acc = rdAttrs fuel rest (acc ++ [(k, v)]) := by
  simp only [rdAttrs, encAttr, List.append_assoc, rdULong_be8 _ _ hk, rdULong_be8 _ _ v.kind_lt]
  cases v with
  | bool b => simp [FVal.kind, FVal.payload, rdBool_enc, mapSet_last k _ acc hlt]
  | ulong m => simp [FVal.kind, FVal.payload, rdULong_be8 _ _ (show m < 2^64 from hv), mapSet_last k _ acc hlt]
  | bytes b => simp [FVal.kind, FVal.payload, rdBytes_enc _ _ (show b.length < 2^64 from hv), mapSet_last k _ acc hlt]
  | mechs l => simp [FVal.kind, FVal.payload, rdMechs_enc _ _ hv.1 hv.2, mapSet_last k _ acc hlt]
  | amap l => simp [FVal.kind, FVal.payload, rdMap_enc _ _ (show MapWF l from hv), mapSet_last k _ acc hlt]

theorem rdAttrs_prefix (l acc : FAttrs) (rest : Bytes) (fuel : Nat)
    (h : ((acc ++ l).map Prod.fst).Pairwise (· < ·)) (hb : ∀ e ∈ l, e.1 < 2^64 ∧ e.2.WF) :
    rdAttrs (l.length + fuel) (l.flatMap encAttr ++ rest) acc = rdAttrs fuel rest (acc ++ l) := by
  induction l generalizing acc with
  | nil => simp
  | cons e es ih =>
    have he := hb e (by simp)
    rw [List.flatMap_cons, List.append_assoc, List.length_cons, Nat.add_right_comm,
      rdAttrs_entry e.1 e.2 acc _ _ he.1 he.2 (below_of_pairwise h),
      ih (acc ++ [e]) (by simpa using h) (fun y hy => hb y (by simp [hy]))]
    simp

/-- **a generation word, complete attributes and ANY tail**: what `ObjectFile::refresh` concludes is decided by the tail alone, read with the
    attributes as what the loop has collected so far (the loop still has fuel for at least one more round) -/
theorem decodeFile_prefix (gen : Nat) (attrs : FAttrs) (rest : Bytes) (hg : gen < 2^64) (h : AttrsWF attrs) :
    ∃ fuel, decodeFile (be8 gen ++ (attrs.flatMap encAttr ++ rest)) =
      match rdAttrs (fuel + 1) rest attrs with
      | none => .invalid
      | some a => .valid (some gen) a := by
  have hne : (be8 gen ++ (attrs.flatMap encAttr ++ rest)).isEmpty = false := by simp [be8]
  obtain ⟨d, hd⟩ := Nat.exists_eq_add_of_le
    (length_le_flatMap encAttr (fun e => by simp [encAttr, be8_length]; omega) attrs)
  refine ⟨d + rest.length, ?_⟩
  have := rdAttrs_prefix attrs [] rest (d + rest.length + 1) (by simpa using h.1) h.2
  rw [show attrs.length + (d + rest.length + 1) = (attrs.flatMap encAttr ++ rest).length + 1 by
    simp only [List.length_append]; omega] at this
  simp only [decodeFile, hne, Bool.false_eq_true, if_false, rdULong_be8 _ _ hg, this, List.nil_append]
  rfl

theorem attrsWF_take {l : FAttrs} (h : AttrsWF l) (k : Nat) : AttrsWF (l.take k) := by
  refine ⟨?_, fun e he => h.2 e (List.mem_of_mem_take he)⟩
  have : (l.take k).map Prod.fst = (l.map Prod.fst).take k := by simp [List.map_take]
  rw [this]
  exact List.Pairwise.sublist (List.take_sublist _ _) h.1

end Shm.Store
