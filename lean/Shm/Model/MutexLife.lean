/-
  Life cycle of the library's mutexes across C_Initialize / C_Finalize (SoftHSM.cpp, MutexFactory.cpp, SecureMemoryRegistry, CryptoFactory).
  A mutex is made by the mutex functions installed at the time (none = locking disabled: an invalid handle that is never used while locking stays disabled; the OS functions;
  the application's callbacks) and must only ever be locked / destroyed by the SAME functions.  The two singletons are created on first use and live until they are reset.
  `release = true` is the code as repaired (`fix: a failed C_Initialize releases the singletons it created`), `release = false` the pinned tree.
  Tie to the code: K17-conf mixes the three flavours and failing C_Initialize calls; the index-handle callbacks of the harness count every handle they did not issue
  (`mutex-bad-handle`) and `nop mxstat` shows created = destroyed whenever the library is not initialised (`mutex-leak`).
-/
import Shm.Lemmas.Lists
namespace Shm.MutexLife

inductive Flavour | none | os | app
  deriving DecidableEq, Repr

structure St where
  initialised : Bool := false
  current : Flavour := .os
  singletons : List Flavour := []     -- creator flavour of the mutexes of SecureMemoryRegistry / CryptoFactory, when they exist
  managers : List Flavour := []       -- of the session / handle / slot managers and object stores (exist while initialised)
  misuse : Nat := 0                   -- uses (lock, destroy) of a mutex by functions other than its creator's
  deriving Repr

inductive Op
  | init (f : Flavour) (ok : Bool)    -- C_Initialize with these mutex functions; `ok = false`: it fails behind the creation of the singletons
  | fini                              -- C_Finalize
  | work                              -- any other call: locks the singletons' mutexes (every ByteString registers its memory)
  deriving Repr

def foreign (cur : Flavour) (l : List Flavour) : Nat := (l.filter (· != cur)).length

def step (release : Bool) (s : St) : Op → St
  | .init f ok =>
    if s.initialised then s else
    -- the mutex functions are switched first; the singletons are created only when absent, and used at once
    let sing := if s.singletons.isEmpty then [f, f] else s.singletons
    let s1 : St := { s with current := f, singletons := sing, misuse := s.misuse + foreign f sing }
    if ok then { s1 with initialised := true, managers := [f, f, f] }
    else if release then { s1 with singletons := [], misuse := s1.misuse + foreign f sing }     -- destroyed by the functions of this call
    else s1
  | .fini =>
    if !s.initialised then s else
    { s with initialised := false, managers := [], singletons := [], current := .os,
             misuse := s.misuse + foreign s.current s.managers + foreign s.current s.singletons }
  | .work => if s.initialised then { s with misuse := s.misuse + foreign s.current s.singletons } else s

def run (release : Bool) (ops : List Op) (s : St) : St := ops.foldl (step release) s

/-- the invariant of the repaired code -/
def St.Inv (s : St) : Prop :=
  s.misuse = 0 ∧ (s.initialised = false → s.singletons = [] ∧ s.managers = []) ∧
  (s.initialised = true → (∀ m ∈ s.singletons, m = s.current) ∧ (∀ m ∈ s.managers, m = s.current))

theorem foreign_all_eq (cur : Flavour) (l : List Flavour) (h : ∀ m ∈ l, m = cur) : foreign cur l = 0 := by
  unfold foreign
  simp only [List.length_eq_zero_iff, List.filter_eq_nil_iff]
  intro m hm; simp [h m hm]

theorem step_inv (s : St) (op : Op) (h : s.Inv) : (step true s op).Inv := by
  obtain ⟨h0, hoff, hon⟩ := h
  cases hi : s.initialised
  · -- not initialised: no mutex exists; only C_Initialize does anything, and what it creates it creates with its own functions
    obtain ⟨hs, hm⟩ := hoff hi
    cases op with
    | init f ok => cases ok <;> simp [step, hi, hs, hm, h0, St.Inv, foreign]
    | _ => simpa [step, hi] using ⟨h0, hoff, hon⟩
  · -- initialised: every mutex was made by the current functions, so no use of one is foreign
    obtain ⟨h1, h2⟩ := hon hi
    cases op with
    | init f ok => simpa [step, hi] using ⟨h0, hoff, hon⟩
    | fini => simp [step, hi, St.Inv, h0, foreign_all_eq _ _ h1, foreign_all_eq _ _ h2]
    | work => simpa [step, hi, St.Inv, h0, foreign_all_eq _ _ h1] using hon hi

/-- **Every history of C_Initialize (any flavour, succeeding or failing) / C_Finalize / other calls**: no mutex is ever locked or destroyed by functions other than the ones that made
    it, and none survives outside an initialised period -/
theorem run_inv (ops : List Op) (s : St) (h : s.Inv) : (run true ops s).Inv :=
  foldl_inv ops (fun s op _ => step_inv s op) h

theorem init_inv : ({} : St).Inv := by simp [St.Inv]

/-- the pinned tree: a failed C_Initialize with the application's callbacks, then OS locking - the registry's mutex is locked by pthread functions -/
theorem pinned_tree_misuses : (run false [.init .app false, .init .os true, .work] {}).misuse > 0 := by decide

/-! ### is locking switched on?  (`MutexFactory::enabled`, tied at unit level: `purefn mxseq`) -/

inductive MxAns
  | fin (rv : Nat)                       -- C_Finalize
  | ini (rv : Nat) (enabled : Bool)      -- C_Initialize: return code, mutex factory switched on afterwards?
  deriving DecidableEq, Repr

/-- the answers of a sequence of C_Initialize (n / o / a: no locking, OS locking, application callbacks; upper case: failing behind the choice of the mutex functions) and
    C_Finalize (f) calls.  (initialised, enabled) is the state; the factory starts switched on. -/
def mxTrace : List Char → Bool → Bool → List MxAns
  | [], _, _ => []
  | c :: r, ini, en =>
    if c == 'f' then (if ini then .fin 0 :: mxTrace r false en else .fin 400 :: mxTrace r ini en)
    else if ini then .ini 401 en :: mxTrace r ini en
    else
      let en' := !(c == 'n' || c == 'N')
      let fails := c == 'N' || c == 'O' || c == 'A'
      .ini (if fails then 5 else 0) en' :: mxTrace r (!fails) en'

def MxAns.render : MxAns → String
  | .fin rv => s!"f{rv}"
  | .ini rv en => s!"{rv}:{if en then 1 else 0}"

def mxLine (s : String) : String := ",".intercalate ((mxTrace s.toList false true).map MxAns.render)

/-- whatever came before - locking switched off by an earlier C_Initialize(NULL), failed attempts, C_Finalize - a C_Initialize that asks for locking leaves it switched ON -/
theorem init_with_locking_enables (c : Char) (r : List Char) (en : Bool) (hc : c = 'o' ∨ c = 'a') :
    (mxTrace (c :: r) false en).head? = some (.ini 0 true) := by
  rcases hc with h | h <;> subst h <;> simp [mxTrace]

end Shm.MutexLife
